import ChessVerif.Lemmas.PinCheck1
/-
Pins and checks on the specification, part 2: the effect of a plain move (`apply`) on the king square
and on the attacks against the mover's king.
-/
namespace Chess
namespace PinCheck

theorem no_between_of_adjacent {a z b : Sq} (hf : (b.file - a.file).natAbs ≤ 1)
    (hr : (b.rank - a.rank).natAbs ≤ 1) (h : strictlyBetween a z b = true) : False := by
  obtain ⟨u, n, t, ht, htn, hb, _⟩ := At_of_sb h
  have := hb.dist (by omega)
  omega

theorem leaper_no_between {b : Option (Piece × Color)} {x z k : Sq} (hl : leaperAtt b x k = true)
    (h : strictlyBetween x z k = true) : False := by
  unfold leaperAtt at hl
  rcases b with _ | ⟨pc, c⟩
  · simp at hl
  · cases pc with
    | knight => exact knight_not_aligned ((mem_knight x k).trans hl) (strictlyBetween_aligned h)
    | king =>
      have := (mem_king_spec x k).trans hl
      simp only [mem_king, Bool.and_eq_true, decide_eq_true_eq] at this
      exact no_between_of_adjacent this.1.2 this.2 h
    | pawn =>
      simp only [Bool.and_eq_true, beq_iff_eq] at hl
      have := fwd_cases c
      exact no_between_of_adjacent (by omega) (by omega) h
    | _ => simp at hl

/-! ### what pseudo-legality gives for a man that is not the king -/

/-- the facts about a pseudo-legal move of a non-king man used by the pin/check argument -/
structure PlainMove (p : Pos) (m : Move) : Prop where
  moved : ∃ pc', movedMan p m = some (pc', p.stm) ∧ pc' ≠ .king
  dstColor : p.colorAt m.dst ≠ some p.stm
  path : ∀ z, strictlyBetween m.src z m.dst = true → p.empty z = true

theorem between_double {a z b : Sq} (hf : b.file = a.file) (d : Int) (hd : d = 1 ∨ d = -1)
    (hr : b.rank - a.rank = 2 * d) (h : strictlyBetween a z b = true) :
    z.file = a.file ∧ z.rank = a.rank + d := by
  obtain ⟨u, n, t, ht, htn, hb, hz⟩ := At_of_sb h
  have := hb.dist (by omega)
  obtain rfl : n = 2 := by omega
  obtain rfl : t = 1 := by omega
  obtain ⟨b1, b2⟩ := hb
  obtain ⟨z1, z2⟩ := hz
  omega

theorem pseudoLegal_plain {p : Pos} {m : Move} {pc : Piece} {c : Color}
    (hpl : pseudoLegal p m = true) (hs : p.board m.src = some (pc, c)) (hpc : pc ≠ .king) :
    c = p.stm ∧ PlainMove p m := by
  unfold pseudoLegal at hpl
  rw [hs] at hpl
  simp only [Bool.and_eq_true, beq_iff_eq, bne_iff_ne, ne_eq] at hpl
  obtain ⟨⟨rfl, hdc⟩, hrest⟩ := hpl
  refine ⟨rfl, ?_⟩
  cases pc with
  | king => exact absurd rfl hpc
  | pawn =>
    simp only [Bool.and_eq_true, Bool.or_eq_true, beq_iff_eq] at hrest
    obtain ⟨hpromo, hmv⟩ := hrest
    refine ⟨?_, hdc, fun z hz => ?_⟩
    · unfold movedMan
      rw [hs]
      cases hq : m.promo with
      | none => exact ⟨.pawn, rfl, by decide⟩
      | some q =>
        refine ⟨q, rfl, ?_⟩
        rintro rfl
        rw [hq] at hpromo
        simp [promoPieces] at hpromo
    · have hf := fwd_cases p.stm
      rcases hmv with ((h | h) | h) | h
      · exact (no_between_of_adjacent (by omega) (by omega) hz).elim
      · obtain ⟨⟨⟨⟨h1, h2⟩, _⟩, _⟩, h5⟩ := h
        rw [sq?_eq_some.mpr (between_double (by omega) p.stm.fwd hf h2 hz)] at h5
        exact h5
      · exact (no_between_of_adjacent (by omega) (by omega) hz).elim
      · exact (no_between_of_adjacent (by omega) (by omega) hz).elim
  | _ =>
    rw [Bool.and_eq_true, attacks_eq, hs, Bool.or_eq_true, Bool.and_eq_true, pathClear_iff] at hrest
    refine ⟨⟨_, by unfold movedMan; rw [hs], by decide⟩, hdc, fun z hz => ?_⟩
    rcases hrest.2 with h | h
    · exact h.2 z hz
    · exact (leaper_no_between h hz).elim

/-! ### the context of the pin/check argument -/

/-- `m` is a pseudo-legal, non-en-passant move of a man other than the (unique) king on `k` -/
structure Ctx (p : Pos) (m : Move) (k : Sq) : Prop where
  king : KingAt p p.stm k
  src : ∃ pc, p.board m.src = some (pc, p.stm)
  srcNe : m.src ≠ k
  plain : PlainMove p m
  notCastle : isCastle p m = false
  notEp : isEnPassant p m = false

theorem Ctx.mk' {p : Pos} {m : Move} {k : Sq} (hK : KingAt p p.stm k) (hpl : pseudoLegal p m = true)
    (hne : m.src ≠ k) (hep : isEnPassant p m = false) : Ctx p m k := by
  obtain ⟨pc, hs, _⟩ := pseudoLegal_src hpl
  have hpc : pc ≠ .king := fun e => hne ((hK _).mp (e ▸ hs))
  exact ⟨hK, ⟨pc, hs⟩, hne, (pseudoLegal_plain hpl hs hpc).2, isCastle_not_king hs hpc, hep⟩

/-- the enemy man on `x` attacks the king on `k` after `m` -/
def After (p : Pos) (m : Move) (k x : Sq) : Prop :=
  p.colorAt x = some p.stm.other ∧ x ≠ m.dst ∧
    ((sliderAligned (p.board x) x k = true ∧
        ∀ z, strictlyBetween x z k = true → z ≠ m.dst ∧ (z = m.src ∨ p.empty z = true)) ∨
      leaperAtt (p.board x) x k = true)

namespace Ctx
variable {p : Pos} {m : Move} {k : Sq}

theorem colorAt_src (h : Ctx p m k) : p.colorAt m.src = some p.stm :=
  h.src.elim fun _ => colorAt_of_board

theorem board_king (h : Ctx p m k) : p.board k = some (.king, p.stm) := (h.king k).mpr rfl

theorem colorAt_king (h : Ctx p m k) : p.colorAt k = some p.stm := colorAt_of_board h.board_king

theorem dst_ne_src (h : Ctx p m k) : m.dst ≠ m.src :=
  fun he => h.plain.dstColor (he ▸ h.colorAt_src)

theorem dst_ne_king (h : Ctx p m k) : m.dst ≠ k :=
  fun he => h.plain.dstColor (he ▸ h.colorAt_king)

theorem src_not_empty (h : Ctx p m k) : p.empty m.src = false := not_empty_of_colorAt h.colorAt_src
theorem king_not_empty (h : Ctx p m k) : p.empty k = false := not_empty_of_colorAt h.colorAt_king

theorem enemy_ne_src (h : Ctx p m k) {x : Sq} (hx : p.colorAt x = some p.stm.other) : x ≠ m.src :=
  ne_of_colorAt_other h.colorAt_src hx

theorem enemy_ne_king (h : Ctx p m k) {x : Sq} (hx : p.colorAt x = some p.stm.other) : x ≠ k :=
  ne_of_colorAt_other h.colorAt_king hx

theorem after_board (h : Ctx p m k) (t : Sq) :
    (apply p m).board t = if t = m.dst then movedMan p m else if t = m.src then none else p.board t :=
  apply_board_plain h.notCastle h.notEp t

theorem after_board_other (h : Ctx p m k) {t : Sq} (h1 : t ≠ m.dst) (h2 : t ≠ m.src) :
    (apply p m).board t = p.board t := by
  rw [h.after_board, if_neg h1, if_neg h2]

theorem after_empty (h : Ctx p m k) (z : Sq) :
    (apply p m).empty z = true ↔ z ≠ m.dst ∧ (z = m.src ∨ p.empty z = true) := by
  obtain ⟨pc', hm, _⟩ := h.plain.moved
  rw [empty_iff, empty_iff, h.after_board]
  by_cases h1 : z = m.dst
  · subst h1; simp [hm]
  · by_cases h2 : z = m.src
    · subst h2; simp [h1]
    · simp [h1, h2]

theorem after_enemy (h : Ctx p m k) (x : Sq) :
    (apply p m).colorAt x = some p.stm.other ↔ x ≠ m.dst ∧ p.colorAt x = some p.stm.other := by
  obtain ⟨pc', hm, _⟩ := h.plain.moved
  by_cases h1 : x = m.dst
  · subst h1
    have := (Color.other_ne p.stm).symm
    simp [Pos.colorAt, h.after_board, hm, this]
  · by_cases h2 : x = m.src
    · subst h2
      obtain ⟨pc, hs⟩ := h.src
      have := (Color.other_ne p.stm).symm
      simp [Pos.colorAt, h.after_board, h1, hs, this]
    · unfold Pos.colorAt
      rw [h.after_board_other h1 h2]
      exact (and_iff_right h1).symm

theorem after_king (h : Ctx p m k) : KingAt (apply p m) p.stm k := by
  obtain ⟨pc', hm, hk⟩ := h.plain.moved
  intro t
  rw [h.after_board]
  by_cases h1 : t = m.dst
  · subst h1
    simp [hm, hk, h.dst_ne_king]
  · by_cases h2 : t = m.src
    · subst h2
      simp [h1, h.srcNe]
    · rw [if_neg h1, if_neg h2]
      exact h.king t

/-- **attack after the move**: an enemy man `x` (not captured) attacks the king afterwards iff it is a
leaper that attacked it before, or a slider aligned with the king whose path holds nothing but the
vacated source square and does not contain the destination -/
theorem after_attacks (h : Ctx p m k) {x : Sq} (hx : p.colorAt x = some p.stm.other) (hd : x ≠ m.dst) :
    attacks (apply p m) x k = true ↔
      ((sliderAligned (p.board x) x k = true ∧
          ∀ z, strictlyBetween x z k = true → z ≠ m.dst ∧ (z = m.src ∨ p.empty z = true)) ∨
        leaperAtt (p.board x) x k = true) := by
  rw [attacks_eq, h.after_board_other hd (h.enemy_ne_src hx)]
  simp only [Bool.or_eq_true, Bool.and_eq_true, pathClear_iff, h.after_empty]

theorem after_attacks_leaper (h : Ctx p m k) {x : Sq} (hx : p.colorAt x = some p.stm.other)
    (hd : x ≠ m.dst) (hl : sliderAligned (p.board x) x k = false) :
    attacks (apply p m) x k = attacks p x k := by
  rw [attacks_eq, attacks_eq, h.after_board_other hd (h.enemy_ne_src hx), hl, Bool.false_and,
    Bool.false_and]

theorem after_inCheck (h : Ctx p m k) : inCheck (apply p m) p.stm = true ↔ ∃ x, After p m k x := by
  unfold inCheck
  rw [kingSq?_of_KingAt h.after_king]
  unfold attackedBy
  simp only [allSq_any, Bool.and_eq_true, beq_iff_eq, h.after_enemy, and_assoc]
  exact exists_congr fun x => and_left_comm.trans <| and_congr_right fun hx => and_congr_right fun hd =>
    h.after_attacks hx hd

end Ctx

theorem legal_iff_no_After {p : Pos} {m : Move} {k : Sq} (h : Ctx p m k) (hpl : pseudoLegal p m = true) :
    legal p m = true ↔ ∀ x, ¬ After p m k x := by
  unfold legal
  rw [hpl, Bool.true_and, Bool.not_eq_true', ← Bool.not_eq_true, h.after_inCheck, not_exists]

end PinCheck
end Chess
