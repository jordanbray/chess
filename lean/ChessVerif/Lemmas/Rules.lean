import ChessVerif.Spec.Rules
/-!
Squares by their coordinates, the rank constants of the two colours, the board accessors, and the parts of
`pseudoLegal`, `apply`, `Valid`, `epValid` and `norm` under names of their own, each with the equation
saying that the definition is made of them; attacks and paths; the flags `apply` reads off a move; source
and destination of a pseudo-legal move, the man that arrives (`PinCheck.movedMan`, `finalMan`) and the board
of `apply` case by case.  Most parts are in namespace `Closure`, continued in
`Lemmas/Closure.lean`; a few carry the namespace of the file that works with them most (`PinCheck.movedMan`,
`PseudoBits.pawnStd`, `EnPassant.predPos`, `Sym.sbCore`).
-/
namespace Chess

/-! ### squares by coordinates -/

theorem Sq.coord_bounds (s : Sq) : 0 ≤ s.file ∧ s.file < 8 ∧ 0 ≤ s.rank ∧ s.rank < 8 := by
  have := s.isLt
  unfold Sq.file Sq.rank
  omega

theorem Sq.val_coord (s : Sq) : (s.val : Int) = s.rank * 8 + s.file := by
  unfold Sq.file Sq.rank
  omega

theorem Sq.ext_coord {a b : Sq} (hf : a.file = b.file) (hr : a.rank = b.rank) : a = b := by
  apply Fin.ext
  have ha := Sq.val_coord a
  have hb := Sq.val_coord b
  omega

theorem Sq.eq_iff_coord (a b : Sq) : a = b ↔ a.file = b.file ∧ a.rank = b.rank :=
  ⟨fun h => h ▸ ⟨rfl, rfl⟩, fun h => Sq.ext_coord h.1 h.2⟩

theorem sq?_eq_some {f r : Int} {s : Sq} : sq? f r = some s ↔ s.file = f ∧ s.rank = r := by
  have hs := s.isLt
  unfold sq? Sq.file Sq.rank
  split
  · rw [Option.some.injEq, Fin.ext_iff]
    show (r * 8 + f).toNat = s.val ↔ _
    omega
  · constructor
    · intro h; cases h
    · intro h; omega

theorem sq?_eq_none (f r : Int) : sq? f r = none ↔ ¬(0 ≤ f ∧ f < 8 ∧ 0 ≤ r ∧ r < 8) := by
  unfold sq?; split <;> simp [*]

theorem mkSq_file (r f : Fin 8) : (mkSq r f).file = (f.val : Int) := by
  unfold mkSq Sq.file
  simp only
  omega

theorem mkSq_rank (r f : Fin 8) : (mkSq r f).rank = (r.val : Int) := by
  unfold mkSq Sq.rank
  simp only
  omega

/-! ### the two colours -/

/-- the rank constants of the two colours, in the form `omega` can use -/
theorem Color.ranks (c : Color) :
    (c.fwd = 1 ∧ c.homeRank = 0 ∧ c.pawnRank = 1 ∧ c.lastRank = 7 ∧
      c.other.fwd = -1 ∧ c.other.homeRank = 7 ∧ c.other.pawnRank = 6) ∨
    (c.fwd = -1 ∧ c.homeRank = 7 ∧ c.pawnRank = 6 ∧ c.lastRank = 0 ∧
      c.other.fwd = 1 ∧ c.other.homeRank = 0 ∧ c.other.pawnRank = 1) := by
  cases c <;> decide

theorem fwd_cases (c : Color) : c.fwd = 1 ∨ c.fwd = -1 := (Color.ranks c).imp And.left And.left

theorem Color.eq_other_of_ne {c d : Color} (h : c ≠ d) : c = d.other := by
  cases c <;> cases d <;> first | rfl | exact absurd rfl h

theorem homeRank_inj {c d : Color} (h : c.homeRank = d.homeRank) : c = d := by
  refine Decidable.byContradiction fun hne => ?_
  have := Color.ranks d
  rw [Color.eq_other_of_ne hne] at h
  omega

/-! ### board accessors -/

theorem empty_iff {p : Pos} {s : Sq} : p.empty s = true ↔ p.board s = none := Option.isNone_iff_eq_none

theorem colorAt_iff (p : Pos) (s : Sq) (c : Color) :
    p.colorAt s = some c ↔ ∃ pc, p.board s = some (pc, c) := by
  unfold Pos.colorAt
  rcases p.board s with _ | ⟨pc, c'⟩ <;> simp

theorem colorAt_of_board {p : Pos} {s : Sq} {pc : Piece} {c : Color} (h : p.board s = some (pc, c)) :
    p.colorAt s = some c := (colorAt_iff p s c).mpr ⟨pc, h⟩

theorem not_empty_of_colorAt {p : Pos} {s : Sq} {c : Color} (h : p.colorAt s = some c) :
    p.empty s = false := by
  obtain ⟨pc, h⟩ := (colorAt_iff p s c).mp h
  unfold Pos.empty
  rw [h]; rfl

theorem ne_of_colorAt_other {p : Pos} {a x : Sq} {c : Color} (ha : p.colorAt a = some c)
    (hx : p.colorAt x = some c.other) : x ≠ a := by
  rintro rfl
  exact Color.other_ne c (Option.some.inj (hx.symm.trans ha))

theorem colorAt_ne_iff {p : Pos} {s : Sq} {c : Color} :
    p.colorAt s ≠ some c ↔ ∀ x, p.board s ≠ some (x, c) := by
  rw [ne_eq, colorAt_iff, not_exists]

theorem king_attacks_near {p : Pos} {S D : Sq} {c' : Color} (hs : p.board S = some (.king, c'))
    (h : attacks p S D = true) : (D.file - S.file).natAbs ≤ 1 ∧ (D.rank - S.rank).natAbs ≤ 1 := by
  unfold attacks at h
  rw [hs] at h
  obtain ⟨u, _, hu⟩ := List.any_eq_true.mp h
  simp only [onRay, step?, Bool.and_eq_true, beq_iff_eq, sq?_eq_some] at hu
  have : -1 ≤ u.df ∧ u.df ≤ 1 ∧ -1 ≤ u.dr ∧ u.dr ≤ 1 := by cases u <;> decide
  omega

theorem pathClear_empty {p : Pos} {a b x : Sq} (h : pathClear p a b = true) (hx : strictlyBetween a x b = true) :
    p.board x = none := by
  have := List.all_eq_true.mp h x (List.mem_finRange x)
  rwa [hx, Bool.not_true, Bool.false_or, empty_iff] at this

/-! ### parts of the rules that other namespaces name -/

namespace PinCheck

/-- the man that arrives on the destination square (a promoting pawn changes its kind) -/
def movedMan (p : Pos) (m : Move) : Option (Piece × Color) :=
  match p.board m.src, m.promo with
  | some (.pawn, c'), some q => some (q, c')
  | x, _ => x

theorem apply_stm (p : Pos) (m : Move) : (apply p m).stm = p.stm.other := rfl

end PinCheck

namespace PseudoBits

/-- the first three disjuncts of the pawn clause of `pseudoLegal`: single step, double step, capture
(same text as in `Spec/Rules.lean`) -/
def pawnStd (p : Pos) (src d : Sq) (c : Color) : Bool :=
  let df := d.file - src.file; let dr := d.rank - src.rank
  (df == 0 && dr == c.fwd && p.empty d)
  || (df == 0 && dr == 2 * c.fwd && src.rank == c.pawnRank && p.empty d &&
        (match sq? src.file (src.rank + c.fwd) with | some x => p.empty x | none => false))
  || (df.natAbs == 1 && dr == c.fwd && p.colorAt d == some c.other)

/-- the fourth disjunct of the pawn clause of `pseudoLegal`: the en-passant capture -/
def epClause (p : Pos) (src d : Sq) (c : Color) : Bool :=
  let df := d.file - src.file; let dr := d.rank - src.rank
  df.natAbs == 1 && dr == c.fwd && p.empty d &&
    (match sq? d.file src.rank with
     | some q => p.ep == some q && p.has q .pawn c.other
     | none => false)

/-- the promotion condition of the pawn clause of `pseudoLegal`: a pawn promotes exactly on the last rank -/
def promoShape (c : Color) (d : Sq) (q : Option Piece) : Bool :=
  if d.rank == c.lastRank then (match q with | some q => promoPieces.contains q | none => false)
  else q.isNone

theorem midEmpty_iff (p : Pos) (src : Sq) (c : Color) :
    (match sq? src.file (src.rank + c.fwd) with | some x => p.empty x | none => false) = true ↔
      ∃ o : Sq, o.file = src.file ∧ o.rank = src.rank + c.fwd ∧ p.empty o = true := by
  cases h : sq? src.file (src.rank + c.fwd) with
  | none =>
    simp only [Bool.false_eq_true, false_iff]
    rintro ⟨o, h1, h2, _⟩
    have := sq?_eq_some.mpr ⟨h1, h2⟩
    rw [h] at this; cases this
  | some x =>
    simp only
    have hx := sq?_eq_some.mp h
    constructor
    · intro he; exact ⟨x, hx.1, hx.2, he⟩
    · rintro ⟨o, h1, h2, he⟩
      have : o = x := Sq.ext_coord (by omega) (by omega)
      subst this; exact he

theorem pawnStd_iff (p : Pos) (src d : Sq) (c : Color) :
    pawnStd p src d c = true ↔
      (d.file = src.file ∧ d.rank = src.rank + c.fwd ∧ p.empty d = true) ∨
      (d.file = src.file ∧ d.rank = src.rank + 2 * c.fwd ∧ src.rank = c.pawnRank ∧ p.empty d = true ∧
        ∃ o : Sq, o.file = src.file ∧ o.rank = src.rank + c.fwd ∧ p.empty o = true) ∨
      ((d.file = src.file + 1 ∨ d.file = src.file - 1) ∧ d.rank = src.rank + c.fwd ∧
        p.colorAt d = some c.other) := by
  have e0 : d.file - src.file = 0 ↔ d.file = src.file := by omega
  have e1 : ∀ k : Int, d.rank - src.rank = k ↔ d.rank = src.rank + k := fun k => by omega
  have e2 : (d.file - src.file).natAbs = 1 ↔ (d.file = src.file + 1 ∨ d.file = src.file - 1) := by omega
  unfold pawnStd
  simp only [Bool.or_eq_true, Bool.and_eq_true, beq_iff_eq, midEmpty_iff, e0, e1, e2, and_assoc, or_assoc]

end PseudoBits

namespace EnPassant

/-- the predecessor position of `epValid`: the pushed pawn back on its start square `org` -/
def predPos (p : Pos) (q org : Sq) : Pos :=
  { p with board := fun s => if s == org then some (.pawn, p.stm.other) else if s == q then none else p.board s }

end EnPassant

namespace Sym

/-- `strictlyBetween` on the coordinate differences `b - a` and `x - a` -/
def sbCore (dfb drb dfx drx : Int) : Bool :=
  (dfb == 0 || drb == 0 || dfb.natAbs == drb.natAbs) &&
  dfx * drb == drx * dfb &&
  0 < dfx * dfb + drx * drb &&
  dfx * dfx + drx * drx < dfb * dfb + drb * drb

theorem strictlyBetween_eq (a x b : Sq) :
    strictlyBetween a x b = sbCore (b.file - a.file) (b.rank - a.rank) (x.file - a.file) (x.rank - a.rank) := rfl

end Sym

namespace Closure
open PinCheck (movedMan)
open PseudoBits (pawnStd epClause promoShape)
open EnPassant (predPos)

theorem Sq.ext_fr {a b : Sq} (hf : a.file = b.file) (hr : a.rank = b.rank) : a = b := Sq.ext_coord hf hr

theorem sq?_self (s : Sq) : sq? s.file s.rank = some s := sq?_eq_some.mpr ⟨rfl, rfl⟩

/-! ### the parts of `pseudoLegal` -/

/-- the pawn branch of `pseudoLegal` -/
def pawnOk (p : Pos) (m : Move) (c : Color) : Bool :=
  promoShape c m.dst m.promo && (pawnStd p m.src m.dst c || epClause p m.src m.dst c)

/-- the castling disjunct of `pseudoLegal` -/
def castleOk (p : Pos) (m : Move) (c : Color) : Bool :=
  let df := m.dst.file - m.src.file; let dr := m.dst.rank - m.src.rank
  (m.src.rank == c.homeRank && m.src.file == 4 && dr == 0 && df.natAbs == 2 &&
    let kingside := df == 2
    let rookFile : Int := if kingside then 7 else 0
    (if kingside then p.castleK c else p.castleQ c) &&
    (match sq? rookFile c.homeRank, sq? (4 + df / 2) c.homeRank with
     | some r, some mid =>
        p.has r .rook c && pathClear p m.src r &&
        !attackedBy p c.other m.src && !attackedBy p c.other mid && !attackedBy p c.other m.dst
     | _, _ => false))

theorem pseudoLegal_eq (p : Pos) (m : Move) : pseudoLegal p m =
    match p.board m.src with
    | none => false
    | some (k, c') =>
      c' == p.stm && p.colorAt m.dst != some p.stm &&
      match k with
      | .pawn => pawnOk p m p.stm
      | .king => m.promo.isNone && (attacks p m.src m.dst || castleOk p m p.stm)
      | _ => m.promo.isNone && attacks p m.src m.dst := by
  unfold pseudoLegal pawnOk promoShape pawnStd epClause castleOk
  rcases p.board m.src with _ | ⟨_|_|_|_|_|_, _⟩ <;> rfl

theorem legal_pseudo {p : Pos} {m : Move} (h : legal p m = true) : pseudoLegal p m = true :=
  (Bool.and_eq_true_iff.mp h).1

/-! ### the parts of `apply` -/

def epVictim (p : Pos) (m : Move) : Option Sq := if isEnPassant p m then sq? m.dst.file m.src.rank else none
/-- where the castling rook stands (files 7 / 0) and where it goes (files 5 / 3) -/
def castleSq (p : Pos) (m : Move) (k q : Int) : Option Sq :=
  if isCastle p m then homeSq p.stm (if m.dst.file > m.src.file then k else q) else none
def touched (m : Move) (s : Option Sq) : Bool := s == some m.src || s == some m.dst

theorem apply_board (p : Pos) (m : Move) (s : Sq) : (apply p m).board s =
    if s == m.dst then movedMan p m
    else if s == m.src then none
    else if some s == epVictim p m then none
    else if some s == castleSq p m 7 0 then none
    else if some s == castleSq p m 5 3 then some (.rook, p.stm)
    else p.board s := rfl
theorem apply_castleK (p : Pos) (m : Move) (d : Color) : (apply p m).castleK d =
    (p.castleK d && !touched m (homeSq d 4) && !touched m (homeSq d 7)) := rfl
theorem apply_castleQ (p : Pos) (m : Move) (d : Color) : (apply p m).castleQ d =
    (p.castleQ d && !touched m (homeSq d 4) && !touched m (homeSq d 0)) := rfl
theorem apply_ep (p : Pos) (m : Move) : (apply p m).ep = if isDoubleStep p m then some m.dst else none := rfl

/-! ### the parts of `Valid`, `epValid` and `norm` -/

/-- the per-colour clause of `Valid` -/
def validSide (p : Pos) (c : Color) : Bool :=
  count p (· == (.king, c)) == 1 && count p (·.2 == c) ≤ 16 && count p (· == (.pawn, c)) ≤ 8 &&
  (!(p.castleK c) || ((homeSq c 4).any (p.has · .king c) && (homeSq c 7).any (p.has · .rook c))) &&
  (!(p.castleQ c) || ((homeSq c 4).any (p.has · .king c) && (homeSq c 0).any (p.has · .rook c)))
def pawnsOk (p : Pos) : Bool :=
  allSq.all (fun s => !(p.board s).any (·.1 == .pawn) || (s.rank != 0 && s.rank != 7))
theorem Valid_eq (p : Pos) : Valid p =
    ([Color.white, Color.black].all (validSide p) && pawnsOk p && !inCheck p p.stm.other && epValid p) := rfl

theorem epValid_eq (p : Pos) : epValid p =
    match p.ep with
    | none => true
    | some q =>
      p.has q .pawn p.stm.other && q.rank == p.stm.other.pawnRank + 2 * p.stm.other.fwd &&
      (match sq? q.file (q.rank - p.stm.other.fwd), sq? q.file p.stm.other.pawnRank with
       | some mid, some org => p.empty mid && p.empty org && !inCheck (predPos p q org) p.stm
       | _, _ => false) := by
  unfold epValid predPos; rfl

/-- does `norm` keep the mark `q`? -/
def normKeep (p : Pos) (q : Sq) : Bool :=
  allSq.any (fun s => s.rank == q.rank && (s.file - q.file).natAbs == 1 && p.has s .pawn p.stm)
theorem norm_ep (p : Pos) : (norm p).ep =
    match p.ep with
    | none => none
    | some q => if normKeep p q then some q else none := rfl

end Closure

/-! ### the flags `apply` reads off a move -/

theorem isEnPassant_pawn {p : Pos} {m : Move} {c' : Color} (hs : p.board m.src = some (.pawn, c')) :
    isEnPassant p m = true ↔ (m.src.file ≠ m.dst.file ∧ p.board m.dst = none) := by
  unfold isEnPassant Pos.empty
  rw [hs]
  simp only [Bool.true_and, Bool.and_eq_true, bne_iff_ne, Option.isNone_iff_eq_none]

theorem isDoubleStep_pawn {p : Pos} {m : Move} {c' : Color} (hs : p.board m.src = some (.pawn, c')) :
    isDoubleStep p m = true ↔ (m.dst.rank - m.src.rank).natAbs = 2 := by
  unfold isDoubleStep
  rw [hs]
  simp only [Bool.true_and, beq_iff_eq]

theorem isCastle_king {p : Pos} {m : Move} {c' : Color} (hs : p.board m.src = some (.king, c')) :
    isCastle p m = true ↔ (m.dst.file - m.src.file).natAbs = 2 := by
  unfold isCastle
  rw [hs]
  simp only [Bool.true_and, beq_iff_eq]

theorem not_pawn_flags {p : Pos} {m : Move} {pc : Piece} {c' : Color} (hs : p.board m.src = some (pc, c'))
    (hp : pc ≠ .pawn) : isEnPassant p m = false ∧ isDoubleStep p m = false := by
  unfold isEnPassant isDoubleStep
  rw [hs]
  cases pc <;> first | exact absurd rfl hp | exact ⟨rfl, rfl⟩

theorem isCastle_not_king {p : Pos} {m : Move} {pc : Piece} {c' : Color} (hs : p.board m.src = some (pc, c'))
    (hp : pc ≠ .king) : isCastle p m = false := by
  unfold isCastle
  rw [hs]
  cases pc <;> first | exact absurd rfl hp | rfl

/-! ### source and destination of a pseudo-legal move; the board of `apply` case by case -/

theorem pseudoLegal_src {p : Pos} {m : Move} (h : pseudoLegal p m = true) :
    ∃ pc, p.board m.src = some (pc, p.stm) ∧ p.colorAt m.dst ≠ some p.stm := by
  rw [Closure.pseudoLegal_eq] at h
  split at h
  · cases h
  · rename_i pc c' hb
    simp only [Bool.and_eq_true, beq_iff_eq, bne_iff_ne] at h
    exact ⟨pc, h.1.1 ▸ hb, h.1.2⟩

theorem pseudoLegal_ne {p : Pos} {m : Move} (h : pseudoLegal p m = true) : m.src ≠ m.dst := by
  obtain ⟨pc, hs, hd⟩ := pseudoLegal_src h
  exact fun e => hd ((colorAt_iff _ _ _).mpr ⟨pc, e ▸ hs⟩)

section
open Closure PinCheck

/-- the kind of the man that arrives on the destination: a promoting pawn changes its kind -/
def finalMan (m : Move) (pc : Piece) : Piece := if pc = .pawn then m.promo.getD .pawn else pc

theorem movedMan_eq {p : Pos} {m : Move} {pc : Piece} {c : Color} (hs : p.board m.src = some (pc, c)) :
    movedMan p m = some (finalMan m pc, c) := by
  unfold movedMan finalMan
  rw [hs]
  cases m.promo <;> cases pc <;> rfl

theorem finalMan_of_no_promo {m : Move} {pc : Piece} (h : pc = .pawn → m.promo = none) : finalMan m pc = pc := by
  unfold finalMan
  split
  · rw [h ‹_›]; exact Eq.symm ‹_›
  · rfl

theorem apply_board_dst (p : Pos) (m : Move) : (apply p m).board m.dst = movedMan p m :=
  (apply_board p m m.dst).trans (if_pos (beq_self_eq_true _))

theorem apply_board_plain {p : Pos} {m : Move} (hc : isCastle p m = false) (he : isEnPassant p m = false) (t : Sq) :
    (apply p m).board t = if t = m.dst then movedMan p m else if t = m.src then none else p.board t := by
  simp only [apply_board, epVictim, castleSq, he, hc, beq_iff_eq, reduceCtorEq, if_false, Bool.false_eq_true]

theorem apply_board_ep {p : Pos} {m : Move} (hc : isCastle p m = false) (he : isEnPassant p m = true)
    {v : Sq} (hv : sq? m.dst.file m.src.rank = some v) (t : Sq) :
    (apply p m).board t = if t = m.dst then movedMan p m else if t = m.src then none
      else if t = v then none else p.board t := by
  simp only [apply_board, epVictim, castleSq, he, hc, hv, beq_iff_eq, reduceCtorEq, if_false, if_true,
    Bool.false_eq_true, Option.some.injEq]

theorem apply_board_castle {p : Pos} {m : Move} (hc : isCastle p m = true) (he : isEnPassant p m = false)
    {rs re : Sq} (hrs : homeSq p.stm (if m.dst.file > m.src.file then 7 else 0) = some rs)
    (hre : homeSq p.stm (if m.dst.file > m.src.file then 5 else 3) = some re) (t : Sq) :
    (apply p m).board t = if t = m.dst then movedMan p m else if t = m.src then none
      else if t = rs then none else if t = re then some (.rook, p.stm) else p.board t := by
  simp only [apply_board, epVictim, castleSq, he, hc, hrs, hre, beq_iff_eq, reduceCtorEq, if_false, if_true,
    Bool.false_eq_true, Option.some.injEq]

end
end Chess
