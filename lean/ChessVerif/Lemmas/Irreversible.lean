import ChessVerif.Lemmas.Closure
import ChessVerif.Spec.Game
/-!
# Irreversible half-moves (pure specification)

A potential `Φ` on positions that no pseudo-legal move increases and that every pawn move, every capture and
every change of castling rights strictly decreases:

  `Φ p = Σ over the men of p of their weight + number of castling rights`,

the weight of a pawn being `1 +` its distance to the promotion rank, the weight of any other man `1`.
Hence a position that occurred before such a half-move cannot occur after it (`irreversible_no_recurrence`):
this is what allows `can_declare_draw` to forget the positions before the last irreversible half-move.
-/
namespace Chess
namespace Irreversible
open Closure

/-! ### weighted sums over the board -/

def weight (s : Sq) : Option (Piece × Color) → Nat
  | none => 0
  | some (.pawn, c) => 1 + (c.lastRank - s.rank).natAbs
  | some _ => 1

def wsum (b : Bd) : Nat := (allSq.map fun s => weight s (b s)).sum

@[simp] theorem weight_none (s : Sq) : weight s none = 0 := rfl

theorem weight_nonpawn (s : Sq) {pc : Piece} (c : Color) (h : pc ≠ .pawn) : weight s (some (pc, c)) = 1 := by
  cases pc <;> first | rfl | exact absurd rfl h

theorem weight_pos (s : Sq) {v : Option (Piece × Color)} (h : v ≠ none) : 1 ≤ weight s v := by
  cases v with
  | none => exact absurd rfl h
  | some x =>
    obtain ⟨pc, c⟩ := x
    cases pc <;> simp [weight]

/-- a pawn that advances (one or two ranks), promoting or not, gets lighter -/
theorem pawn_weight_lt {c : Color} {a b : Sq} (h : b.rank - a.rank = c.fwd ∨ b.rank - a.rank = 2 * c.fwd)
    (pc' : Piece) : weight b (some (pc', c)) < weight a (some (.pawn, c)) := by
  have ha := Sq.coord_bounds a
  have hb := Sq.coord_bounds b
  have hc := Color.ranks c
  by_cases hp : pc' = .pawn
  · subst hp; simp only [weight]; omega
  · rw [weight_nonpawn _ _ hp]; simp only [weight]; omega

theorem wsum_apply {p : Pos} {m : Move} (hs : Shape p m) :
    wsum (apply p m).board ≤ wsum p.board ∧
    (Spec.GameSt.isCaptureOrPawn p m = true → wsum (apply p m).board < wsum p.board) := by
  show bsum weight _ ≤ bsum weight _ ∧ (_ → bsum weight _ < bsum weight _)
  cases hs with
  | normal pc pc' hsrc hdst hne hpc hatk hpawn hboard =>
    have e := bsum_upd2 weight p.board hne none (some (pc', p.stm))
    rw [← hboard, hsrc, weight_none] at e
    by_cases hp : pc = .pawn
    · subst hp
      have := pawn_weight_lt (c := p.stm) (a := m.src) (b := m.dst) ((hpawn rfl).step.imp_right And.left) pc'
      exact ⟨by omega, fun _ => by omega⟩
    · have hpc' : pc' = pc := hpc.resolve_right fun h => hp h.1
      subst hpc'
      rw [weight_nonpawn _ _ hp, weight_nonpawn _ _ hp] at e
      refine ⟨by omega, fun hcp => ?_⟩
      have hd : p.board m.dst ≠ none := by
        intro h0
        unfold Spec.GameSt.isCaptureOrPawn at hcp
        rw [hsrc] at hcp
        simp only [Pos.empty, h0, Option.isNone_none, Bool.not_true, Bool.or_false] at hcp
        cases pc' <;> simp at hcp hp
      have := weight_pos m.dst hd
      omega
  | ep q pc' hsrc hdst hq hqs hqd hne hpc hlast hdr hboard =>
    have e := bsum_upd3 weight p.board hqs hqd hne none none (some (pc', p.stm))
    rw [← hboard, hsrc, hdst] at e
    simp only [weight_none] at e
    have := pawn_weight_lt (c := p.stm) (a := m.src) (b := m.dst) (.inl hdr) pc'
    exact ⟨by omega, fun _ => by omega⟩
  | castle r t hsrc hsrcr hsrcf hdst hr ht hrr htr hrs hrd hts htd htr' hne hboard =>
    have e := bsum_upd4 weight p.board htr' hts htd hrs hrd hne (some (.rook, p.stm)) none none (some (.king, p.stm))
    rw [← hboard, hsrc, hdst, hr, ht] at e
    simp only [weight] at e
    refine ⟨by omega, fun hcp => ?_⟩
    unfold Spec.GameSt.isCaptureOrPawn at hcp
    rw [hsrc] at hcp
    simp [Pos.empty, hdst] at hcp

/-! ### the castling rights -/

/-- the four castling rights, in the order of `Pos.key` -/
def rightsList (p : Pos) : List Bool := [p.castleK .white, p.castleQ .white, p.castleK .black, p.castleQ .black]

def flags (p : Pos) : Nat := ((rightsList p).filter id).length

/-- "no more flags on, and fewer if the lists differ" survives one more flag in front of both lists
that is on in the first only if it is on in the second -/
theorem count_true_cons {x' x : Bool} {l' l : List Bool} (hx : x' = true → x = true)
    (ih : (l'.filter id).length ≤ (l.filter id).length ∧ (l' ≠ l → (l'.filter id).length < (l.filter id).length)) :
    ((x' :: l').filter id).length ≤ ((x :: l).filter id).length ∧
    (x' :: l' ≠ x :: l → ((x' :: l').filter id).length < ((x :: l).filter id).length) := by
  obtain ⟨ih1, ih2⟩ := ih
  cases x' <;> cases x
  · exact ⟨ih1, fun hne => ih2 fun e => hne (e ▸ rfl)⟩
  · exact ⟨Nat.le_succ_of_le ih1, fun _ => Nat.lt_succ_of_le ih1⟩
  · exact absurd (hx rfl) Bool.false_ne_true
  · exact ⟨Nat.succ_le_succ ih1, fun hne => Nat.succ_lt_succ (ih2 fun e => hne (e ▸ rfl))⟩

theorem flags_apply (p : Pos) (m : Move) :
    flags (apply p m) ≤ flags p ∧
    (rightsList (apply p m) ≠ rightsList p → flags (apply p m) < flags p) :=
  count_true_cons rights_shrinkK <| count_true_cons rights_shrinkQ <| count_true_cons rights_shrinkK <|
    count_true_cons rights_shrinkQ ⟨Nat.le_refl _, fun h => absurd rfl h⟩

/-! ### the potential -/

def Φ (p : Pos) : Nat := wsum p.board + flags p

theorem Φ_norm (p : Pos) : Φ (norm p) = Φ p := rfl

/-- a half-move the model treats as irreversible: a pawn move, a capture, or a change of castling rights -/
def irreversible (p : Pos) (m : Move) : Bool :=
  Spec.GameSt.isCaptureOrPawn p m || (rightsList (apply p m) != rightsList p)

theorem Φ_step {p : Pos} {m : Move} (h : pseudoLegal p m = true) :
    Φ (norm (apply p m)) ≤ Φ p ∧ (irreversible p m = true → Φ (norm (apply p m)) < Φ p) := by
  obtain ⟨w1, w2⟩ := wsum_apply (pseudoLegal_shape h)
  obtain ⟨f1, f2⟩ := flags_apply p m
  rw [Φ_norm]
  unfold Φ
  constructor
  · omega
  · intro hi
    simp only [irreversible, Bool.or_eq_true, bne_iff_ne, ne_eq] at hi
    rcases hi with hi | hi
    · have := w2 hi; omega
    · have := f2 hi; omega

/-! ### position identity -/

theorem key_inj {p q : Pos} (h : Spec.Pos.key p = Spec.Pos.key q) : p = q := by
  unfold Spec.Pos.key at h
  simp only [Prod.mk.injEq, List.cons.injEq, and_true] at h
  obtain ⟨hb, hs, ⟨h1, h2, h3, h4⟩, he⟩ := h
  have hb' : p.board = q.board := funext fun s => List.map_inj_left.mp hb s (List.mem_finRange s)
  have hk : p.castleK = q.castleK := funext fun c => by cases c <;> assumption
  have hq : p.castleQ = q.castleQ := funext fun c => by cases c <;> assumption
  cases p; cases q
  simp only at hb' hs hk hq he
  subst hb' hs hk hq he
  rfl

theorem key_eq_iff {p q : Pos} : Spec.Pos.key p = Spec.Pos.key q ↔ p = q :=
  ⟨key_inj, fun h => by rw [h]⟩

theorem Φ_of_key {p q : Pos} (h : Spec.Pos.key p = Spec.Pos.key q) : Φ p = Φ q := by rw [key_inj h]

theorem Φ_playLegalNorm {p q : Pos} {ms : List Move} (h : playLegalNorm p ms = some q) : Φ q ≤ Φ p :=
  playLegalNorm_rel (R := fun p q => Φ q ≤ Φ p) (fun _ => Nat.le_refl _)
    (fun hl ih => Nat.le_trans ih (Φ_step (legal_pseudo hl)).1) h

/-- **a position from before an irreversible half-move cannot recur after it**: along any history of legal
moves (as the library records it, `playLegalNorm`) `q ⟶* p ⟶[m] p' ⟶* q'` with `m` a pawn move, a capture or a
move changing castling rights, the positions `q` and `q'` differ (different `Pos.key`) -/
theorem irreversible_no_recurrence {q p q' : Pos} {m : Move} {ms ms' : List Move}
    (h1 : playLegalNorm q ms = some p) (hl : legal p m = true) (hirr : irreversible p m = true)
    (h2 : playLegalNorm (norm (apply p m)) ms' = some q') : Spec.Pos.key q ≠ Spec.Pos.key q' := by
  intro hk
  have e := Φ_of_key hk
  have a := Φ_playLegalNorm h1
  have b := (Φ_step (legal_pseudo hl)).2 hirr
  have c := Φ_playLegalNorm h2
  omega

end Irreversible
end Chess
