import ChessVerif.Model.Deprecated
import ChessVerif.Lemmas.Final
/-!
The deprecated board mutators (`set_piece`, `clear_square`, `add/remove_castle_rights`) keep the board
representation consistent with the position they denote.

* `removeAt_spec`: under `Core`, removing "whatever `piece_on` reports on `s`, colour read from the white
  board" removes exactly the man standing on `s` (piece board, colour board, `combined`, placement key).
* `editTail_some`: an accepted edit returns `update_pin_info` of the edited board, side to move restored.
* `setPiece_spec` / `clearSquare_spec`: `Core` kept, contents changed on `s` only, every other field kept,
  cached fields from scratch.
* `editTail_none_iff_inCheck`: the edit is refused exactly when the side not to move would be in check.
-/
namespace Chess

def Pos.put (P : Pos) (s : Sq) (v : Option (Piece × Color)) : Pos :=
  { P with board := fun q => if q = s then v else P.board q }

theorem abs_of_tryFrom {T : Tables} {bd : Builder} {b : Board} (h : Board.tryFrom T bd = some b)
    (hn : bd.epFile = none) :
    b.abs = ⟨bd.pieces, bd.stm, fun c => (bd.castleRights c).ks, fun c => (bd.castleRights c).qs, none⟩ := by
  obtain ⟨_, h2, h3, h4, h5, h6, _⟩ := tryFrom_spec T bd b h
  have hg : bd.getEnPassant = none := by unfold Builder.getEnPassant; rw [hn]; rfl
  rw [hg] at h6
  refine Pos.ext' h2 h3 (funext fun c => ?_) (funext fun c => ?_) h6
  · cases c
    · exact congrArg CastleRights.ks h4
    · exact congrArg CastleRights.ks h5
  · cases c
    · exact congrArg CastleRights.qs h4
    · exact congrArg CastleRights.qs h5

/-- kings that stand on `x0` and `k0` only -/
theorem kingAttack_false_of_unique {P : Pos} {c : Color} {x0 k0 : Sq} (hx : ∀ x, P.board x = some (.king, c) → x = x0)
    (hk : ∀ k, P.board k = some (.king, c.other) → k = k0) (ha : attacks P x0 k0 = false) :
    ∀ x k, P.board x = some (.king, c) → P.board k = some (.king, c.other) → attacks P x k = false := by
  intro x k h1 h2
  rw [hx x h1, hk k h2]
  exact ha

/-- the fields `abs` reads besides the contents; no toggle changes them -/
def Board.side (b : Board) : Color × CastleRights × CastleRights × Option Sq := (b.stm, b.wcr, b.bcr, b.ep)

theorem xor_side (T : Tables) (b : Board) (p : Piece) (bb : BB) (c : Color) : (b.xor T p bb c).side = b.side := by
  unfold Board.side
  rw [xor_stm, xor_wcr, xor_bcr, xor_ep]

theorem abs_eq_with_board {b b' : Board} {f : Sq → Option (Piece × Color)} (hc : b'.content = f)
    (hs : b'.side = b.side) : b'.abs = { b.abs with board := f } := by
  simp only [Board.side, Prod.mk.injEq] at hs
  obtain ⟨h1, h2, h3, h4⟩ := hs
  exact Pos.ext' hc h1 (funext fun c => congrArg CastleRights.ks (castleRights_of_fields h2 h3 c))
    (funext fun c => congrArg CastleRights.qs (castleRights_of_fields h2 h3 c)) h4

namespace Deprecated
open CheckPin

/-! ### `removeAt` -/

/-- `removeAt` is the identity or one toggle: it changes no observation that toggles leave alone -/
theorem removeAt_inv {α : Type} {T : Tables} (f : Board → α) (hx : ∀ b p bb c, f (Board.xor T b p bb c) = f b)
    (b : Board) (s : Sq) : f (Board.removeAt T b s) = f b := by
  unfold Board.removeAt
  cases b.pieceOn s with
  | none => rfl
  | some x =>
    dsimp only
    by_cases h : b.white &&& BB.ofSq s = BB.ofSq s
    · rw [if_pos h]; exact hx ..
    · rw [if_neg h]; exact hx ..

/-- on consistent bitboards `removeAt` (kind from `piece_on`, colour from the white board) toggles the man
that stands on `s` -/
theorem removeAt_eq {T : Tables} {b : Board} (h : Struct b) (s : Sq) :
    Board.removeAt T b s = match b.content s with
      | none => b
      | some (x, c) => b.xor T x (BB.ofSq s) c := by
  unfold Board.removeAt
  cases hc : b.content s with
  | none => rw [pieceOn_of_content_none h hc]
  | some xc =>
    obtain ⟨x, c⟩ := xc
    rw [pieceOn_of_content h hc]
    have hcb : (b.colorCombined c).getLsbD s.val = true := ((h.content_some_iff s x c).mp hc).2
    dsimp only
    cases c with
    | white => rw [if_pos ((and_ofSq_eq_self_iff b.white s).mpr hcb)]
    | black =>
      rw [if_neg]
      intro e
      have := h.color_disj s.val ((and_ofSq_eq_self_iff _ _).mp e)
      rw [show b.black.getLsbD s.val = true from hcb] at this
      cases this

theorem removeAt_spec {T : Tables} {b : Board} (h : Core T b) (s : Sq) :
    Core T (Board.removeAt T b s) ∧
    ∀ t, (Board.removeAt T b s).content t = if t = s then none else b.content t := by
  rw [removeAt_eq h.toStruct]
  cases hc : b.content s with
  | none =>
    refine ⟨h, fun t => ?_⟩
    by_cases hts : t = s
    · rw [if_pos hts, hts, hc]
    · rw [if_neg hts]
  | some xc =>
    obtain ⟨x, c⟩ := xc
    exact h.remove hc

/-! ### the tail: flip, recompute, test, flip back, recompute -/

theorem updatePinInfo_flip_back (T : Tables) (r : Board) :
    Board.updatePinInfo T
      { Board.updatePinInfo T { r with stm := r.stm.other } with
        stm := (Board.updatePinInfo T { r with stm := r.stm.other }).stm.other } = Board.updatePinInfo T r := by
  cases r with
  | mk pawns knights bishops rooks queens kings white black combined stm wcr bcr pinned checkers hash ep =>
    cases stm <;> rfl

/-- the two flips of the side to move cancel: an accepted edit returns `update_pin_info` of the edited board -/
theorem editTail_eq (T : Tables) (r : Board) :
    Board.editTail T r = if (Board.updatePinInfo T { r with stm := r.stm.other }).checkers ≠ 0#64 then none
      else some (Board.updatePinInfo T r) := by
  unfold Board.editTail
  dsimp only
  rw [updatePinInfo_flip_back]

theorem editTail_none_iff (T : Tables) (r : Board) :
    Board.editTail T r = none ↔ (Board.updatePinInfo T { r with stm := r.stm.other }).checkers ≠ 0#64 := by
  rw [editTail_eq]
  by_cases h : (Board.updatePinInfo T { r with stm := r.stm.other }).checkers ≠ 0#64
  · rw [if_pos h]; exact ⟨fun _ => h, fun _ => rfl⟩
  · rw [if_neg h]; exact ⟨fun e => (by cases e), fun e => absurd e h⟩

theorem editTail_some {T : Tables} {r b' : Board} (h : Board.editTail T r = some b') :
    (Board.updatePinInfo T { r with stm := r.stm.other }).checkers = 0#64 ∧ b' = Board.updatePinInfo T r := by
  rw [editTail_eq] at h
  by_cases hc : (Board.updatePinInfo T { r with stm := r.stm.other }).checkers ≠ 0#64
  · rw [if_pos hc] at h; cases h
  · rw [if_neg hc] at h
    exact ⟨Classical.not_not.mp hc, (Option.some.inj h).symm⟩

theorem editTail_isSome_iff (T : Tables) (r : Board) :
    (Board.editTail T r).isSome = true ↔ (Board.updatePinInfo T { r with stm := r.stm.other }).checkers = 0#64 := by
  cases he : Board.editTail T r with
  | none =>
    have := (editTail_none_iff T r).mp he
    exact ⟨fun e => (by cases e), fun e => absurd e this⟩
  | some b' => exact ⟨fun _ => (editTail_some he).1, fun _ => rfl⟩

/-- what an accepted tail returns, in terms of the board it was given -/
theorem editTail_fields {T : Tables} {r b' : Board} (h : Board.editTail T r = some b') :
    SamePl b' r ∧ b'.abs = r.abs ∧ b'.PinOK T := by
  obtain ⟨_, e⟩ := editTail_some h
  subst e
  exact ⟨rfl, rfl, Board.PinOK.updatePinInfo T r⟩

/-- the tail refuses exactly when the side not to move is in check on the edited board; hypotheses: that
side has one king and the other king does not stand next to it (`update_pin_info` never looks at kings) -/
theorem editTail_none_iff_inCheck {T : Tables} (hT : TablesOK T) {r : Board} (hs : Struct r)
    (hk : (r.kings &&& r.colorCombined r.stm.other).popcnt = 1)
    (hkk : ∀ x, r.content x = some (.king, r.stm) → attacks r.abs x (r.kingSquare r.stm.other) = false) :
    Board.editTail T r = none ↔ inCheck r.abs r.stm.other = true := by
  have hkk1 : KingsApart (SaneCheck.flip r) := fun x hx => by
    rw [show (SaneCheck.flip r).stm.other = r.stm from Color.other_other _] at hx
    exact hkk x hx
  rw [editTail_none_iff, Ne, ← Bool.not_eq_false]
  exact not_congr (SaneCheck.flip_checkers_zero_iff hT hs hk hkk1)

/-! ### `set_piece` and `clear_square` -/

/-- the board `set_piece` hands to the tail -/
def setRaw (T : Tables) (b : Board) (p : Piece) (c : Color) (s : Sq) : Board :=
  (Board.removeAt T b s).xor T p (BB.ofSq s) c

theorem removeAt_side (T : Tables) (b : Board) (s : Sq) : (Board.removeAt T b s).side = b.side :=
  removeAt_inv Board.side (xor_side T) b s

theorem setRaw_side (T : Tables) (b : Board) (p : Piece) (c : Color) (s : Sq) : (setRaw T b p c s).side = b.side :=
  (xor_side ..).trans (removeAt_side T b s)

theorem setRaw_spec {T : Tables} {b : Board} (h : Core T b) (p : Piece) (c : Color) (s : Sq) :
    Core T (setRaw T b p c s) ∧
    ∀ t, (setRaw T b p c s).content t = if t = s then some (p, c) else b.content t := by
  obtain ⟨h1, c1⟩ := removeAt_spec h s
  have hn : (Board.removeAt T b s).content s = none := by rw [c1, if_pos rfl]
  obtain ⟨h2, c2⟩ := h1.add p c hn
  refine ⟨h2, fun t => ?_⟩
  unfold setRaw
  rw [c2, c1]
  by_cases hts : t = s
  · simp only [if_pos hts]
  · simp only [if_neg hts]

theorem setRaw_abs {T : Tables} {b : Board} (h : Core T b) (p : Piece) (c : Color) (s : Sq) :
    (setRaw T b p c s).abs = b.abs.put s (some (p, c)) :=
  abs_eq_with_board (funext (setRaw_spec h p c s).2) (setRaw_side T b p c s)

theorem removeAt_abs {T : Tables} {b : Board} (h : Core T b) (s : Sq) :
    (Board.removeAt T b s).abs = b.abs.put s none :=
  abs_eq_with_board (funext (removeAt_spec h s).2) (removeAt_side T b s)

theorem setPiece_spec {T : Tables} {b b' : Board} {p : Piece} {c : Color} {s : Sq} (h : Core T b)
    (he : b.setPiece T p c s = some b') :
    Core T b' ∧ b'.PinOK T ∧
    b'.abs = b.abs.put s (some (p, c)) := by
  obtain ⟨hs, ha, hp⟩ := editTail_fields (r := setRaw T b p c s) he
  exact ⟨(hs.core_iff T).mpr (setRaw_spec h p c s).1, hp, ha.trans (setRaw_abs h p c s)⟩

theorem clearSquare_spec {T : Tables} {b b' : Board} {s : Sq} (h : Core T b)
    (he : b.clearSquare T s = some b') :
    Core T b' ∧ b'.PinOK T ∧
    b'.abs = b.abs.put s none := by
  obtain ⟨hs, ha, hp⟩ := editTail_fields (r := Board.removeAt T b s) he
  exact ⟨(hs.core_iff T).mpr (removeAt_spec h s).1, hp, ha.trans (removeAt_abs h s)⟩

/-! ### refusal, on the edited position -/

/-- transfer of the two king hypotheses from the edited position to the edited board -/
theorem refuses_of_pos {T : Tables} (hT : TablesOK T) {r : Board} {P : Pos} (hs : Struct r) (habs : r.abs = P)
    (hk : count P (· == (.king, r.stm.other)) = 1)
    (hkk : ∀ x k, P.board x = some (.king, r.stm) → P.board k = some (.king, r.stm.other) → attacks P x k = false) :
    Board.editTail T r = none ↔ inCheck P r.stm.other = true := by
  subst habs
  have hk' : (r.kings &&& r.colorCombined r.stm.other).popcnt = 1 :=
    (hs.count_piece_color .king r.stm.other).symm.trans hk
  exact editTail_none_iff_inCheck hT hs hk' fun x hx => hkk x _ hx (content_kingSquare hs hk')

theorem setPiece_refuses {T : Tables} (hT : TablesOK T) {b : Board} (h : Core T b) (p : Piece) (c : Color) (s : Sq)
    (hk : count (b.abs.put s (some (p, c))) (· == (.king, b.stm.other)) = 1)
    (hkk : ∀ x k, (b.abs.put s (some (p, c))).board x = some (.king, b.stm) →
      (b.abs.put s (some (p, c))).board k = some (.king, b.stm.other) →
      attacks (b.abs.put s (some (p, c))) x k = false) :
    b.setPiece T p c s = none ↔ inCheck (b.abs.put s (some (p, c))) b.stm.other = true := by
  have hst : (setRaw T b p c s).stm = b.stm := congrArg Prod.fst (setRaw_side T b p c s)
  have := refuses_of_pos hT (setRaw_spec h p c s).1.toStruct (setRaw_abs h p c s)
    (by rw [hst]; exact hk) (by rw [hst]; exact hkk)
  rw [hst] at this
  exact this

theorem clearSquare_refuses {T : Tables} (hT : TablesOK T) {b : Board} (h : Core T b) (s : Sq)
    (hk : count (b.abs.put s none) (· == (.king, b.stm.other)) = 1)
    (hkk : ∀ x k, (b.abs.put s none).board x = some (.king, b.stm) →
      (b.abs.put s none).board k = some (.king, b.stm.other) → attacks (b.abs.put s none) x k = false) :
    b.clearSquare T s = none ↔ inCheck (b.abs.put s none) b.stm.other = true := by
  have hst : (Board.removeAt T b s).stm = b.stm := congrArg Prod.fst (removeAt_side T b s)
  have := refuses_of_pos hT (removeAt_spec h s).1.toStruct (removeAt_abs h s)
    (by rw [hst]; exact hk) (by rw [hst]; exact hkk)
  rw [hst] at this
  exact this

/-! ### castling rights -/

theorem setCastleRights_pinOK {T : Tables} {b : Board} (h : b.PinOK T) (c : Color) (cr : CastleRights) :
    (b.setCastleRights c cr).PinOK T := by
  have e : (b.setCastleRights c cr).updatePinInfo T = (b.updatePinInfo T).setCastleRights c cr := by
    cases c <;> rfl
  unfold Board.PinOK at h ⊢
  rw [e, h]

theorem setCastleRights_abs (b : Board) (c : Color) (cr : CastleRights) :
    (b.setCastleRights c cr).abs =
      { b.abs with castleK := fun d => if d = c then cr.ks else b.abs.castleK d,
                   castleQ := fun d => if d = c then cr.qs else b.abs.castleQ d } := by
  cases c <;> exact Pos.ext' rfl rfl (funext fun d => by cases d <;> rfl) (funext fun d => by cases d <;> rfl) rfl

end Deprecated
end Chess
