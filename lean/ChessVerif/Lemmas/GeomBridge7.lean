import ChessVerif.Lemmas.GeomBridge6
import ChessVerif.Model.Board
/-
Geometry, part 7: the stepping helpers of `square.rs` (`uup`, `uforward`, `up`, …) in coordinates and
as `Geom.step` / `Geom.stepWrap`; `Geom.pawnQuiets`.
-/
namespace Chess

/-! ### stepping helpers of `square.rs` -/

theorem Sq.getFile_val (s : Sq) : (s.getFile.val : Int) = s.file := rfl
theorem Sq.getRank_val (s : Sq) : (s.getRank.val : Int) = s.rank := rfl

theorem Sq.uleft_rank (s : Sq) : s.uleft.rank = s.rank := mkSq_rank _ _
theorem Sq.uright_rank (s : Sq) : s.uright.rank = s.rank := mkSq_rank _ _

theorem Sq.uforward_file (s : Sq) (c : Color) : (s.uforward c).file = s.file := by
  cases c <;> exact mkSq_file _ _
theorem Sq.ubackward_file (s : Sq) (c : Color) : (s.ubackward c).file = s.file := by
  cases c <;> exact mkSq_file _ _

theorem emod_add_seven (x : Int) : (x + 7) % 8 = (x + -1) % 8 := by
  rw [← Int.add_emod_right (x + -1) 8, Int.add_assoc]; rfl

/-- the unchecked steps in coordinates, including the wrap-around at the edge -/
theorem Sq.uup_rank' (s : Sq) : s.uup.rank = (s.rank + 1) % 8 := by
  unfold Sq.uup; rw [mkSq_rank]; exact Int.natCast_emod _ _
theorem Sq.udown_rank' (s : Sq) : s.udown.rank = (s.rank + -1) % 8 := by
  unfold Sq.udown; rw [mkSq_rank, ← emod_add_seven]; exact Int.natCast_emod _ _
theorem Sq.uright_file' (s : Sq) : s.uright.file = (s.file + 1) % 8 := by
  unfold Sq.uright; rw [mkSq_file]; exact Int.natCast_emod _ _
theorem Sq.uleft_file' (s : Sq) : s.uleft.file = (s.file + -1) % 8 := by
  unfold Sq.uleft; rw [mkSq_file, ← emod_add_seven]; exact Int.natCast_emod _ _
theorem Sq.uforward_rank' (s : Sq) (c : Color) : (s.uforward c).rank = (s.rank + c.fwd) % 8 := by
  cases c
  · exact Sq.uup_rank' s
  · exact Sq.udown_rank' s
theorem Sq.ubackward_rank' (s : Sq) (c : Color) : (s.ubackward c).rank = (s.rank + -c.fwd) % 8 := by
  cases c
  · exact Sq.udown_rank' s
  · exact Sq.uup_rank' s

theorem Sq.uright_file (s : Sq) (h : s.file ≠ 7) : s.uright.file = s.file + 1 := by
  have := Sq.coord_bounds s
  rw [Sq.uright_file', Int.emod_eq_of_lt (by omega) (by omega)]
theorem Sq.uleft_file (s : Sq) (h : s.file ≠ 0) : s.uleft.file = s.file - 1 := by
  have := Sq.coord_bounds s
  rw [Sq.uleft_file', Int.emod_eq_of_lt (by omega) (by omega)]
  rfl

/-- one rank forward, unless on the last rank (where the code wraps around) -/
theorem Sq.uforward_rank (s : Sq) (c : Color) (h : s.rank ≠ c.lastRank) :
    (s.uforward c).rank = s.rank + c.fwd := by
  have := Sq.coord_bounds s
  rw [Sq.uforward_rank']
  cases c
  · have h : s.rank ≠ 7 := h
    show (s.rank + 1) % 8 = s.rank + 1
    exact Int.emod_eq_of_lt (by omega) (by omega)
  · have h : s.rank ≠ 0 := h
    show (s.rank + -1) % 8 = s.rank + -1
    exact Int.emod_eq_of_lt (by omega) (by omega)
theorem Sq.ubackward_rank (s : Sq) (c : Color) (h : s.rank ≠ c.homeRank) :
    (s.ubackward c).rank = s.rank - c.fwd := by
  have := Sq.coord_bounds s
  rw [Sq.ubackward_rank']
  cases c
  · have h : s.rank ≠ 0 := h
    show (s.rank + -1) % 8 = s.rank + -1
    exact Int.emod_eq_of_lt (by omega) (by omega)
  · have h : s.rank ≠ 7 := h
    show (s.rank + 1) % 8 = s.rank + 1
    exact Int.emod_eq_of_lt (by omega) (by omega)

/-! ### the wrapping steps of `Geom` -/

theorem Geom.stepWrap_eq_mkSq (s : Sq) (df dr : Int) :
    Geom.stepWrap s df dr = mkSq ⟨((s.rank + dr) % 8).toNat % 8, Nat.mod_lt _ (by decide)⟩
      ⟨((s.file + df) % 8).toNat % 8, Nat.mod_lt _ (by decide)⟩ := rfl

theorem emod8_toNat (k : Int) : (((k % 8).toNat % 8 : Nat) : Int) = k % 8 := by
  rw [Int.natCast_emod, Int.toNat_of_nonneg (Int.emod_nonneg k (by decide))]
  exact Int.emod_emod_of_dvd k (by decide)

theorem Geom.stepWrap_file (s : Sq) (df dr : Int) : (Geom.stepWrap s df dr).file = (s.file + df) % 8 := by
  rw [Geom.stepWrap_eq_mkSq, mkSq_file]; exact emod8_toNat _
theorem Geom.stepWrap_rank (s : Sq) (df dr : Int) : (Geom.stepWrap s df dr).rank = (s.rank + dr) % 8 := by
  rw [Geom.stepWrap_eq_mkSq, mkSq_rank]; exact emod8_toNat _

theorem Sq.eq_stepWrap {x s : Sq} {df dr : Int} (hf : x.file = (s.file + df) % 8) (hr : x.rank = (s.rank + dr) % 8) :
    x = Geom.stepWrap s df dr :=
  Sq.ext_coord (hf.trans (Geom.stepWrap_file s df dr).symm) (hr.trans (Geom.stepWrap_rank s df dr).symm)

/-- a coordinate that does not move -/
theorem Sq.file_add_zero_emod (s : Sq) : s.file = (s.file + 0) % 8 := by
  rw [Int.add_zero, Int.emod_eq_of_lt (Sq.coord_bounds s).1 (Sq.coord_bounds s).2.1]
theorem Sq.rank_add_zero_emod (s : Sq) : s.rank = (s.rank + 0) % 8 := by
  rw [Int.add_zero, Int.emod_eq_of_lt (Sq.coord_bounds s).2.2.1 (Sq.coord_bounds s).2.2.2]

/-- the unchecked steps are the wrapping steps of `Geom` -/
theorem Sq.uforward_eq_stepWrap (s : Sq) (c : Color) : s.uforward c = Geom.stepWrap s 0 c.fwd :=
  Sq.eq_stepWrap ((Sq.uforward_file s c).trans (Sq.file_add_zero_emod s)) (Sq.uforward_rank' s c)
theorem Sq.ubackward_eq_stepWrap (s : Sq) (c : Color) : s.ubackward c = Geom.stepWrap s 0 (-c.fwd) :=
  Sq.eq_stepWrap ((Sq.ubackward_file s c).trans (Sq.file_add_zero_emod s)) (Sq.ubackward_rank' s c)
theorem Sq.uleft_eq_stepWrap : ∀ s : Sq, s.uleft = Geom.stepWrap s (-1) 0 := fun s =>
  Sq.eq_stepWrap (Sq.uleft_file' s) ((Sq.uleft_rank s).trans (Sq.rank_add_zero_emod s))
theorem Sq.uright_eq_stepWrap : ∀ s : Sq, s.uright = Geom.stepWrap s 1 0 := fun s =>
  Sq.eq_stepWrap (Sq.uright_file' s) ((Sq.uright_rank s).trans (Sq.rank_add_zero_emod s))

/-! ### the checked steps are the geometric steps -/

/-- a step that is refused exactly when it would leave the board is the geometric step -/
theorem Sq.checked_eq_step {s u : Sq} {df dr : Int} {c : Prop} [Decidable c]
    (hc : c ↔ ¬ (0 ≤ s.file + df ∧ s.file + df < 8 ∧ 0 ≤ s.rank + dr ∧ s.rank + dr < 8))
    (hu : ¬ c → u.file = s.file + df ∧ u.rank = s.rank + dr) :
    (if c then none else some u) = Geom.step s df dr := by
  unfold Geom.step
  split
  · next h => exact ((sq?_eq_none _ _).mpr (hc.mp h)).symm
  · next h => exact (sq?_eq_some.mpr (hu h)).symm

theorem Sq.getRank_eq_iff (s : Sq) (r : Fin 8) : s.getRank = r ↔ s.rank = (r.val : Int) := by
  rw [← Sq.getRank_val, Fin.ext_iff, Int.ofNat_inj]
theorem Sq.getFile_eq_iff (s : Sq) (f : Fin 8) : s.getFile = f ↔ s.file = (f.val : Int) := by
  rw [← Sq.getFile_val, Fin.ext_iff, Int.ofNat_inj]

theorem Sq.up_eq_step (s : Sq) : s.up = Geom.step s 0 1 := by
  have := Sq.coord_bounds s
  refine Sq.checked_eq_step ((Sq.getRank_eq_iff s 7).trans ?_) fun h => ?_
  · show s.rank = 7 ↔ _; omega
  · exact ⟨(Sq.uforward_file s .white).trans (Int.add_zero _).symm,
      Sq.uforward_rank s .white fun e => h ((Sq.getRank_eq_iff s 7).mpr e)⟩
theorem Sq.down_eq_step (s : Sq) : s.down = Geom.step s 0 (-1) := by
  have := Sq.coord_bounds s
  refine Sq.checked_eq_step ((Sq.getRank_eq_iff s 0).trans ?_) fun h => ?_
  · show s.rank = 0 ↔ _; omega
  · exact ⟨(Sq.uforward_file s .black).trans (Int.add_zero _).symm,
      Sq.uforward_rank s .black fun e => h ((Sq.getRank_eq_iff s 0).mpr e)⟩
theorem Sq.left_eq_step (s : Sq) : s.left = Geom.step s (-1) 0 := by
  have := Sq.coord_bounds s
  refine Sq.checked_eq_step ((Sq.getFile_eq_iff s 0).trans ?_) fun h => ?_
  · show s.file = 0 ↔ _; omega
  · exact ⟨Sq.uleft_file s fun e => h ((Sq.getFile_eq_iff s 0).mpr e),
      (Sq.uleft_rank s).trans (Int.add_zero _).symm⟩
theorem Sq.right_eq_step (s : Sq) : s.right = Geom.step s 1 0 := by
  have := Sq.coord_bounds s
  refine Sq.checked_eq_step ((Sq.getFile_eq_iff s 7).trans ?_) fun h => ?_
  · show s.file = 7 ↔ _; omega
  · exact ⟨Sq.uright_file s fun e => h ((Sq.getFile_eq_iff s 7).mpr e),
      (Sq.uright_rank s).trans (Int.add_zero _).symm⟩
theorem Sq.forward_eq_step (s : Sq) (c : Color) : s.forward c = Geom.step s 0 c.fwd := by
  cases c
  · exact Sq.up_eq_step s
  · exact Sq.down_eq_step s
theorem Sq.backward_eq_step (s : Sq) (c : Color) : s.backward c = Geom.step s 0 (-c.fwd) := by
  cases c
  · exact Sq.down_eq_step s
  · exact Sq.up_eq_step s

theorem Sq.uforward_of_step {s o : Sq} {c : Color} (h : Geom.step s 0 c.fwd = some o) :
    s.uforward c = o := by
  rw [← Sq.forward_eq_step] at h
  cases c <;> simp only [Sq.forward, Sq.up, Sq.down, Option.ite_none_left_eq_some,
    Option.some.injEq] at h <;> exact h.2

theorem Sq.ubackward_of_step {s o : Sq} {c : Color} (h : Geom.step s 0 (-c.fwd) = some o) :
    s.ubackward c = o := by
  rw [← Sq.backward_eq_step] at h
  cases c <;> simp only [Sq.backward, Sq.up, Sq.down, Option.ite_none_left_eq_some,
    Option.some.injEq] at h <;> exact h.2

/-! ### `Geom.step` and pawn pushes -/

theorem step_eq_step? (s : Sq) (u : Dir) : Geom.step s u.df u.dr = step? s u 1 := by
  unfold Geom.step step?
  simp

theorem Geom.step_eq_some (s : Sq) (df dr : Int) (x : Sq) :
    Geom.step s df dr = some x ↔ x.file = s.file + df ∧ x.rank = s.rank + dr :=
  sq?_eq_some

/-- pawn pushes with blockers: the square ahead if empty; from the start rank also the second square
if both are empty -/
theorem mem_pawnQuiets (c : Color) (s : Sq) (bl : BB) (x : Sq) :
    (Geom.pawnQuiets c s bl).getLsbD x.val = true ↔
      ∃ o, Geom.step s 0 c.fwd = some o ∧ bl.has o = false ∧
        (x = o ∨ (s.rank = c.pawnRank ∧ Geom.step s 0 (2 * c.fwd) = some x ∧ bl.has x = false)) := by
  unfold Geom.pawnQuiets
  cases ho : Geom.step s 0 c.fwd with
  | none => simp
  | some o =>
    simp only [Option.some.injEq, exists_eq_left']
    cases hbo : bl.has o with
    | true => simp
    | false =>
      simp only [Bool.false_eq_true, if_false, true_and, BitVec.getLsbD_or, BB.getLsbD_ofSq_val,
        Bool.or_eq_true, decide_eq_true_eq, beq_iff_eq]
      refine or_congr_right ?_
      by_cases hr : s.rank = c.pawnRank
      · simp only [hr, if_true, true_and]
        cases ht : Geom.step s 0 (2 * c.fwd) with
        | none => simp
        | some t =>
          cases hbt : bl.has t with
          | true =>
            simp only [hbt, if_true, BitVec.getLsbD_zero, Bool.false_eq_true, Option.some.injEq,
              false_iff]
            rintro ⟨rfl, hb⟩
            rw [hbt] at hb; cases hb
          | false =>
            simp only [hbt, Bool.false_eq_true, if_false, BB.getLsbD_ofSq_val, decide_eq_true_eq,
              Option.some.injEq]
            exact ⟨fun h => ⟨h.symm, h ▸ hbt⟩, fun h => h.1.symm⟩
      · simp [hr]

theorem mem_pawnQuiets_coord (c : Color) (s : Sq) (bl : BB) (x : Sq) :
    (Geom.pawnQuiets c s bl).getLsbD x.val = true ↔
      x.file = s.file ∧ bl.has x = false ∧
        (x.rank = s.rank + c.fwd ∨
          (x.rank = s.rank + 2 * c.fwd ∧ s.rank = c.pawnRank ∧
            ∃ o : Sq, o.file = s.file ∧ o.rank = s.rank + c.fwd ∧ bl.has o = false)) := by
  rw [mem_pawnQuiets]
  simp only [Geom.step_eq_some, Int.add_zero]
  constructor
  · rintro ⟨o, ⟨ho1, ho2⟩, hbo, rfl | ⟨hr, ⟨hx1, hx2⟩, hbx⟩⟩
    · exact ⟨ho1, hbo, Or.inl ho2⟩
    · exact ⟨hx1, hbx, Or.inr ⟨hx2, hr, o, ho1, ho2, hbo⟩⟩
  · rintro ⟨hf, hbx, hr | ⟨hr, hp, o, ho1, ho2, hbo⟩⟩
    · exact ⟨x, ⟨hf, hr⟩, hbx, Or.inl rfl⟩
    · exact ⟨o, ⟨ho1, ho2⟩, hbo, Or.inr ⟨hp, ⟨hf, hr⟩, hbx⟩⟩

end Chess
