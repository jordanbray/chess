import ChessVerif.Lemmas.MakeMove
import ChessVerif.Lemmas.Sane
/-!
The two side conditions of `make_move_refines` are invariants of play: `Pos.EpSane` holds after every
pseudo-legal move (and null move), `Pos.RightsSane` is preserved by them, and `is_sane` implies
`Pos.RightsSane` (`SaneFacts.rightsSane`).  So the only place where a side condition can fail is the ep mark of the board
`try_from` starts from.
-/
namespace Chess

theorem apply_ep_some {p : Pos} {m : Move} {q : Sq} (h : (apply p m).ep = some q) :
    isDoubleStep p m = true ∧ q = m.dst := by
  rw [Closure.apply_ep] at h
  by_cases hd : isDoubleStep p m = true
  · rw [if_pos hd] at h
    exact ⟨hd, (Option.some.inj h).symm⟩
  · rw [if_neg hd] at h; cases h

/-- after a pseudo-legal move the recorded ep mark is consistent, whatever the position before -/
theorem epSane_after {p : Pos} {m : Move} (h : pseudoLegal p m = true) : (norm (apply p m)).EpSane := by
  intro q hq
  obtain ⟨hd, hqD⟩ := apply_ep_some (norm_ep_some hq)
  subst hqD
  obtain ⟨hs, he, hpn, hf, hr1, hr2, _, x, hx, hxe⟩ := double_step_shape h hd
  have hc := isCastle_not_king hs (by decide)
  show (apply p m).board m.dst = some (.pawn, p.stm.other.other) ∧
    m.dst.rank = p.stm.other.other.pawnRank + 2 * p.stm.other.other.fwd ∧
    ∀ mid, sq? m.dst.file (m.dst.rank - p.stm.other.other.fwd) = some mid → (apply p m).board mid = none
  rw [Color.other_other]
  refine ⟨?_, hr2, ?_⟩
  · rw [apply_board_plain hc he, if_pos rfl, movedMan_eq hs, finalMan_of_no_promo fun _ => hpn]
  · intro mid hmid
    rw [sq?_eq_some] at hmid hx
    have hmx : mid = x := Sq.ext_coord (by omega) (by omega)
    subst hmx
    have hcc := fwd_cases p.stm
    have n1 : mid ≠ m.dst := fun e => by rw [e] at hmid; omega
    have n2 : mid ≠ m.src := fun e => by rw [e] at hx; omega
    rw [apply_board_plain hc he, if_neg n1, if_neg n2, hxe]

theorem rightsSane_after {p : Pos} {m : Move} (hr : p.RightsSane) (h : pseudoLegal p m = true) :
    (norm (apply p m)).RightsSane := by
  intro d
  have hs := Closure.pseudoLegal_shape h
  refine ⟨fun hk => ?_, fun hk => ?_⟩
  · have hk : (apply p m).castleK d = true := hk
    exact Closure.step_right hs (Closure.apply_castleK p m d ▸ hk) (hr d).1
  · have hk : (apply p m).castleQ d = true := hk
    exact Closure.step_right hs (Closure.apply_castleQ p m d ▸ hk) (hr d).2

/-! ### the invariant of play -/

def PlayInv (T : Tables) (b : Board) : Prop := Core T b ∧ b.abs.EpSane ∧ b.abs.RightsSane

theorem PlayInv.tryFrom {T : Tables} (hT : TablesOK T) {bd : Builder} {b : Board} (h : Board.tryFrom T bd = some b)
    (hep : b.abs.EpSane) : PlayInv T b := by
  obtain ⟨hc, _, _, _, _, _, _, hs⟩ := tryFrom_spec T bd b h
  exact ⟨hc, hep, (isSane_facts hs).rightsSane hT hc.toStruct⟩

theorem PlayInv.null {T : Tables} {b b' : Board} (hi : PlayInv T b) (h : b.nullMove T = some b') : PlayInv T b' := by
  have hc := ((nullMove_spec T b b' h).1.core_iff T).mpr hi.1
  obtain ⟨_, e⟩ := nullMove_some T b b' h
  subst e
  exact ⟨hc, fun q hq => (by cases hq), hi.2.2⟩

theorem PlayInv.move {T : Tables} (hT : TablesOK T) {b b' : Board} {m : Move} (hi : PlayInv T b)
    (hpl : pseudoLegal b.abs m = true) (h : b.makeMoveNew T m = some b') :
    PlayInv T b' ∧ b'.abs = norm (apply b.abs m) := by
  obtain ⟨b'', e, hc, habs⟩ := make_move_abs hT hi.1 hpl hi.2.1 hi.2.2
  rw [h] at e
  injection e with e
  subst e
  refine ⟨⟨hc, ?_, ?_⟩, habs⟩
  · rw [habs]; exact epSane_after hpl
  · rw [habs]; exact rightsSane_after hi.2.2 hpl

/-- boards reached from an accepted builder state whose ep mark is consistent, by null moves and
pseudo-legal moves: no further side condition along the way -/
inductive Played (T : Tables) : Board → Prop
  | start (bd : Builder) (b : Board) : Board.tryFrom T bd = some b → b.abs.EpSane → Played T b
  | null (b b' : Board) : Played T b → b.nullMove T = some b' → Played T b'
  | move (b b' : Board) (m : Move) : Played T b → pseudoLegal b.abs m = true → b.makeMoveNew T m = some b' →
      Played T b'

theorem Played.inv {T : Tables} (hT : TablesOK T) {b : Board} (h : Played T b) : PlayInv T b := by
  induction h with
  | start bd b h hep => exact PlayInv.tryFrom hT h hep
  | null b b' _ h ih => exact ih.null h
  | move b b' m _ hpl h ih => exact (ih.move hT hpl h).1

/-- a builder state without ep square can always start -/
theorem Played.start_noep {T : Tables} {bd : Builder} {b : Board} (h : Board.tryFrom T bd = some b)
    (hn : bd.epFile = none) : Played T b := by
  refine Played.start bd b h fun q (hq : b.ep = some q) => ?_
  have := (tryFrom_spec T bd b h).2.2.2.2.2.1
  have hg : bd.getEnPassant = none := by unfold Builder.getEnPassant; rw [hn]; rfl
  rw [hg, hq] at this
  cases this

end Chess
