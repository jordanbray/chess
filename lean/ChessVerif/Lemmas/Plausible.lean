import ChessVerif.Spec.Plausible
import ChessVerif.Lemmas.PinCheck1
import ChessVerif.Lemmas.Closure
import ChessVerif.Lemmas.EpBounds
/-!
Helpers for `Props/C01Plausible.lean`:

* `plausible` in propositional form, and the geometric reach predicate `Reach`;
* every kind of movement `pseudoLegal` knows (pawn steps and captures, knight jump, king step, castling,
  slides along rook / bishop / queen directions) stays within `Reach`;
* `pseudoLegal p m → plausible p m`, hence the legal moves are among the plausible candidate triples
  (`mem_legalMoves_iff`);
* `epPolicy` in propositional form, and `epPolicy q (norm q).ep = none`.
-/
namespace Chess
namespace Plausible

/-- the geometric clause of `plausible`: same file, same rank, same diagonal, or a knight's jump -/
def Reach (a b : Sq) : Prop :=
  ((((b.file - a.file).natAbs = 0 ∨ (b.rank - a.rank).natAbs = 0) ∨
    (b.file - a.file).natAbs = (b.rank - a.rank).natAbs) ∨
    ((b.file - a.file).natAbs = 1 ∧ (b.rank - a.rank).natAbs = 2)) ∨
    ((b.file - a.file).natAbs = 2 ∧ (b.rank - a.rank).natAbs = 1)

/-- the promotion clause of `plausible` -/
def PromoOK (o : Option Piece) : Prop := o = none ∨ ∃ q, o = some q ∧ promoPieces.contains q = true

theorem promoOK_of_isNone {o : Option Piece} (h : o.isNone = true) : PromoOK o :=
  Or.inl (Option.isNone_iff_eq_none.mp h)

theorem plausible_iff (p : Pos) (m : Move) : plausible p m = true ↔
    p.colorAt m.src = some p.stm ∧ m.src ≠ m.dst ∧ Reach m.src m.dst ∧ PromoOK m.promo := by
  unfold plausible Reach PromoOK
  cases m.promo <;>
    simp only [Bool.and_eq_true, Bool.or_eq_true, beq_iff_eq, bne_iff_ne, ne_eq, and_assoc, true_or, and_true,
      reduceCtorEq, false_or, Option.some.injEq, exists_eq_left']

/-! ### geometry: every movement stays within `Reach` -/

theorem Reach.file {a b : Sq} (h : (b.file - a.file).natAbs = 0) : Reach a b := .inl (.inl (.inl (.inl h)))
theorem Reach.rank {a b : Sq} (h : (b.rank - a.rank).natAbs = 0) : Reach a b := .inl (.inl (.inl (.inr h)))
theorem Reach.diag {a b : Sq} (h : (b.file - a.file).natAbs = (b.rank - a.rank).natAbs) : Reach a b :=
  .inl (.inl (.inr h))

theorem rook_slide_coord {a b : Sq} (h : aligned rookDirs a b = true) :
    (b.file - a.file).natAbs = 0 ∨ (b.rank - a.rank).natAbs = 0 := by
  obtain ⟨_, h | h⟩ := (aligned_rook_iff a b).mp h
  · left; rw [h, Int.sub_self]; rfl
  · right; rw [h, Int.sub_self]; rfl

theorem bishop_slide_coord {a b : Sq} (h : aligned bishopDirs a b = true) :
    (b.file - a.file).natAbs = (b.rank - a.rank).natAbs :=
  ((aligned_bishop_iff a b).mp h).2

/-- a slide along a rook, bishop or queen direction -/
theorem reach_of_aligned_all {a b : Sq} (h : aligned allDirs a b = true) : Reach a b := by
  rw [aligned_allDirs, Bool.or_eq_true] at h
  exact h.elim (fun h => (rook_slide_coord h).elim .file .rank) fun h => .diag (bishop_slide_coord h)

theorem reach_of_slides {ds : List Dir} {p : Pos} {a b : Sq} (h : slides ds p a b = true) : Reach a b :=
  reach_of_aligned_all (aligned_allDirs_of (Bool.and_eq_true_iff.mp h).1)

theorem king_step_coord {a b : Sq} (h : (allDirs.any fun u => onRay a u 1 b) = true) :
    (b.file - a.file).natAbs ≤ 1 ∧ (b.rank - a.rank).natAbs ≤ 1 ∧
      ¬ ((b.file - a.file).natAbs = 0 ∧ (b.rank - a.rank).natAbs = 0) := by
  rw [← mem_king_spec, mem_king] at h
  simp only [Bool.and_eq_true, bne_iff_ne, ne_eq, decide_eq_true_eq] at h
  exact ⟨h.1.2, h.2, fun ⟨h1, h2⟩ => h.1.1 (Sq.ext_coord (Int.sub_eq_zero.mp (Int.natAbs_eq_zero.mp h1))
    (Int.sub_eq_zero.mp (Int.natAbs_eq_zero.mp h2)))⟩

theorem reach_of_king_step {a b : Sq} (h : (allDirs.any fun u => onRay a u 1 b) = true) : Reach a b := by
  have := king_step_coord h
  unfold Reach
  generalize (b.file - a.file).natAbs = x at *
  generalize (b.rank - a.rank).natAbs = y at *
  omega

theorem fwd_natAbs (c : Color) : c.fwd.natAbs = 1 := by cases c <;> rfl

/-- one file aside and one rank forward: a pawn's capture -/
theorem reach_of_pawn_capture {a b : Sq} {c : Color} (hf : (b.file - a.file).natAbs = 1)
    (hr : b.rank - a.rank = c.fwd) : Reach a b := .diag (by rw [hf, hr, fwd_natAbs])

/-- what the man on `a` attacks is within reach of `a` (knight, king, pawn, sliders) -/
theorem reach_of_attacks {p : Pos} {a b : Sq} (h : attacks p a b = true) : Reach a b := by
  unfold attacks at h
  split at h
  · cases h
  · simp only [Bool.or_eq_true, Bool.and_eq_true, beq_iff_eq] at h
    exact h.elim (fun h => .inl (.inr h)) .inr
  · exact reach_of_king_step h
  · simp only [Bool.and_eq_true, beq_iff_eq] at h
    exact reach_of_pawn_capture h.2 h.1
  · exact reach_of_slides h
  · exact reach_of_slides h
  · exact reach_of_slides h

/-! ### `pseudoLegal → plausible` -/

theorem pseudoLegal_plausible {p : Pos} {m : Move} (h : pseudoLegal p m = true) : plausible p m = true := by
  unfold pseudoLegal at h
  split at h
  · cases h
  · rename_i pc c' hb
    simp only [Bool.and_eq_true, beq_iff_eq, bne_iff_ne] at h
    obtain ⟨⟨hc, hd⟩, h⟩ := h
    subst hc
    have hne : m.src ≠ m.dst := Closure.src_ne_dst hb (colorAt_ne_iff.mp hd)
    rw [plausible_iff]
    refine ⟨colorAt_of_board hb, hne, ?_⟩
    split at h
    · -- pawn: single step, double step, capture, en passant; promotion piece on the last rank only
      simp only [Bool.or_eq_true, Bool.and_eq_true, beq_iff_eq] at h
      refine ⟨?_, ?_⟩
      · rcases h.2 with ((h | h) | h) | h
        · exact .file (by rw [h.1.1]; rfl)
        · exact .file (by rw [h.1.1.1.1]; rfl)
        · exact reach_of_pawn_capture h.1.1 h.1.2
        · exact reach_of_pawn_capture h.1.1.1 h.1.1.2
      · have h1 := h.1
        split at h1
        · cases hm : m.promo with
          | none => exact Or.inl rfl
          | some q => rw [hm] at h1; exact Or.inr ⟨q, rfl, h1⟩
        · exact promoOK_of_isNone h1
    · -- king
      rw [Bool.and_eq_true, Bool.or_eq_true] at h
      refine ⟨?_, promoOK_of_isNone h.1⟩
      rcases h.2 with h2 | h2
      · exact reach_of_attacks h2
      · -- castling: same rank
        simp only [Bool.and_eq_true, beq_iff_eq] at h2
        exact .rank (by rw [h2.1.1.2]; rfl)
    · rw [Bool.and_eq_true] at h
      exact ⟨reach_of_attacks h.2, promoOK_of_isNone h.1⟩

theorem legal_plausible {p : Pos} {m : Move} (h : legal p m = true) : plausible p m = true :=
  pseudoLegal_plausible (Closure.legal_pseudo h)

theorem mem_legalMoves {p : Pos} {m : Move} (h : m ∈ legalMoves p) : legal p m = true := by
  unfold legalMoves at h
  exact (List.mem_filter.mp h).2

theorem mem_candidates_of_plausible {p : Pos} {m : Move} (h : plausible p m = true) : m ∈ candidates p := by
  obtain ⟨h1, _, _, h4⟩ := (plausible_iff p m).mp h
  unfold candidates
  simp only [List.mem_flatMap, List.mem_filter, List.mem_map]
  refine ⟨m.src, ⟨mem_allSq _, by rw [h1]; exact beq_self_eq_true _⟩, m.dst, mem_allSq _, m.promo, ?_, rfl⟩
  rcases h4 with h4 | ⟨q, h4, hq⟩
  · rw [h4]; exact List.mem_cons_self
  · rw [h4]
    refine List.mem_cons_of_mem _ (List.mem_map.mpr ⟨q, ?_, rfl⟩)
    simpa using hq

theorem mem_legalMoves_iff (p : Pos) (m : Move) : m ∈ legalMoves p ↔ legal p m = true :=
  ⟨mem_legalMoves, fun h => List.mem_filter.mpr ⟨mem_candidates_of_plausible (legal_plausible h), h⟩⟩

/-! ### `epPolicy` -/

theorem epPolicy_none_iff (q : Pos) (r : Option Sq) : epPolicy q r = none ↔
    (r = none ∧ ¬ (q.ep.isSome = true ∧ ∃ m ∈ legalMoves q, isEnPassant q m = true)) ∨
    (∃ s, r = some s ∧ q.ep = some s ∧ (norm q).ep = some s) := by
  unfold epPolicy
  cases r with
  | none =>
    simp only [List.any_eq_true, true_and, reduceCtorEq, false_and, exists_false, or_false]
    split <;> simp [*]
  | some s =>
    simp only [reduceCtorEq, false_and, false_or, Option.some.injEq, exists_eq_left']
    by_cases h1 : q.ep = some s <;> by_cases h2 : (norm q).ep = some s <;> simp [h1, h2]

/-- the library's policy `norm` lies within the bounds -/
theorem epPolicy_norm (q : Pos) : epPolicy q (norm q).ep = none := by
  rw [epPolicy_none_iff]
  cases hn : (norm q).ep with
  | none =>
    refine Or.inl ⟨rfl, ?_⟩
    rintro ⟨hs, m, hm, he⟩
    have hk := ep_kept_of_pseudoLegal (Closure.legal_pseudo (mem_legalMoves hm)) he
    rw [hn] at hk
    rw [← hk.1] at hs
    cases hs
  | some s => exact Or.inr ⟨s, rfl, norm_ep_some hn, rfl⟩

end Plausible
end Chess
