import ChessVerif.Lemmas.Core
import ChessVerif.Lemmas.BitBoard
/-!
Invariant plumbing for `make_move_new`, `null_move`, `try_from`:
* `Board.pl`: the placement part of a board (the ten fields `Core` talks about), `Core`/`content`
  depend on it only;
* the blank board `try_from` starts from satisfies `Core` (`Core.blank`);
* `Board.xor` calls commute;
* `Core.move_quiet` / `Core.move_capture`: the toggles `make_move_new` starts with, phrased on `content`.
-/
namespace Chess

/-! ### the placement part -/

/-- the board with every non-placement field reset -/
def Board.pl (b : Board) : Board :=
  { b with stm := .white, wcr := .noRights, bcr := .noRights, pinned := 0#64, checkers := 0#64, ep := none }

/-- same piece boards, colour boards, `combined`, raw `hash` -/
def SamePl (b b' : Board) : Prop := b.pl = b'.pl

theorem SamePl.refl (b : Board) : SamePl b b := rfl
theorem SamePl.symm {b b' : Board} (h : SamePl b b') : SamePl b' b := Eq.symm h
theorem SamePl.trans {a b c : Board} (h : SamePl a b) (h' : SamePl b c) : SamePl a c := Eq.trans h h'

theorem samePl_iff (b b' : Board) : SamePl b b' ↔
    b.pawns = b'.pawns ∧ b.knights = b'.knights ∧ b.bishops = b'.bishops ∧ b.rooks = b'.rooks ∧
    b.queens = b'.queens ∧ b.kings = b'.kings ∧ b.white = b'.white ∧ b.black = b'.black ∧
    b.combined = b'.combined ∧ b.hash = b'.hash := by
  unfold SamePl Board.pl
  constructor
  · intro h
    injection h with h1 h2 h3 h4 h5 h6 h7 h8 h9 h10 h11 h12 h13 h14 h15 h16
    exact ⟨h1, h2, h3, h4, h5, h6, h7, h8, h9, h15⟩
  · rintro ⟨h1, h2, h3, h4, h5, h6, h7, h8, h9, h10⟩
    rw [h1, h2, h3, h4, h5, h6, h7, h8, h9, h10]

theorem Struct.pl_iff (b : Board) : Struct b ↔ Struct b.pl :=
  ⟨fun h => ⟨h.1, h.2, h.3, h.4⟩, fun h => ⟨h.1, h.2, h.3, h.4⟩⟩

theorem content_pl (b : Board) : b.pl.content = b.content := rfl

theorem placementHash_pl (T : Tables) (b : Board) : placementHash T b.pl = placementHash T b := rfl

theorem Core.pl_iff (T : Tables) (b : Board) : Core T b ↔ Core T b.pl :=
  ⟨fun h => ⟨(Struct.pl_iff b).mp h.toStruct, h.hash⟩, fun h => ⟨(Struct.pl_iff b).mpr h.toStruct, h.hash⟩⟩

theorem SamePl.struct_iff {b b' : Board} (h : SamePl b b') : Struct b ↔ Struct b' := by
  rw [Struct.pl_iff b, Struct.pl_iff b', h]

theorem SamePl.core_iff {b b' : Board} (T : Tables) (h : SamePl b b') : Core T b ↔ Core T b' := by
  rw [Core.pl_iff T b, Core.pl_iff T b', h]

theorem SamePl.content_eq {b b' : Board} (h : SamePl b b') : b.content = b'.content := by
  rw [← content_pl b, ← content_pl b', h]

theorem SamePl.hash_eq {b b' : Board} (h : SamePl b b') : b.hash = b'.hash :=
  show b.pl.hash = b'.pl.hash from congrArg Board.hash h

theorem SamePl.pieces_eq {b b' : Board} (h : SamePl b b') (p : Piece) : b.pieces p = b'.pieces p :=
  show b.pl.pieces p = b'.pl.pieces p from congrArg (Board.pieces · p) h

theorem SamePl.colorCombined_eq {b b' : Board} (h : SamePl b b') (c : Color) :
    b.colorCombined c = b'.colorCombined c :=
  show b.pl.colorCombined c = b'.pl.colorCombined c from congrArg (Board.colorCombined · c) h

theorem pl_xor (T : Tables) (b : Board) (p : Piece) (bb : BB) (c : Color) :
    (b.xor T p bb c).pl = b.pl.xor T p bb c := by
  unfold Board.xor Board.xorColor Board.xorPieces; cases p <;> cases c <;> rfl

theorem SamePl.xor {b b' : Board} (T : Tables) (h : SamePl b b') (p : Piece) (bb : BB) (c : Color) :
    SamePl (b.xor T p bb c) (b'.xor T p bb c) := by
  unfold SamePl
  rw [pl_xor, pl_xor, h]

theorem pl_setCastleRights (b : Board) (c : Color) (cr : CastleRights) : (b.setCastleRights c cr).pl = b.pl := by
  cases c <;> rfl

theorem pl_setEp (T : Tables) (b : Board) (s : Sq) : (b.setEp T s).pl = b.pl := by
  unfold Board.setEp
  split <;> rfl

/-- `update_pin_info` recomputes `pinned` and `checkers` and touches nothing else -/
theorem updatePinInfo_with (T : Tables) (b : Board) :
    b.updatePinInfo T = { b with pinned := (b.updatePinInfo T).pinned, checkers := (b.updatePinInfo T).checkers } := rfl

theorem pl_updatePinInfo (T : Tables) (b : Board) : (b.updatePinInfo T).pl = b.pl := by
  rw [updatePinInfo_with]; rfl

theorem samePl_setCastleRights (b : Board) (c : Color) (cr : CastleRights) : SamePl (b.setCastleRights c cr) b :=
  pl_setCastleRights b c cr
theorem samePl_setEp (T : Tables) (b : Board) (s : Sq) : SamePl (b.setEp T s) b := pl_setEp T b s
theorem samePl_updatePinInfo (T : Tables) (b : Board) : SamePl (b.updatePinInfo T) b := pl_updatePinInfo T b

/-- the record updates of the cached / non-placement fields -/
theorem samePl_with (b : Board) (stm : Color) (ep : Option Sq) (pinned checkers : BB) :
    SamePl { b with stm := stm, ep := ep, pinned := pinned, checkers := checkers } b := rfl

/-! ### the blank board -/

theorem Board.blank_shows (i : Nat) : Board.blank.Shows i none where
  piece q := by cases q <;> exact BitVec.getLsbD_zero
  color d := by cases d <;> exact BitVec.getLsbD_zero
  comb := BitVec.getLsbD_zero

theorem blank_content (s : Sq) : Board.blank.content s = none := (Board.blank_shows s.val).content

theorem Struct.blank : Struct Board.blank := Struct.of_shows fun i => ⟨none, Board.blank_shows i⟩

theorem Core.blank (T : Tables) : Core T Board.blank where
  toStruct := Struct.blank
  hash := by
    unfold placementHash
    have h : ∀ l : List Sq, l.foldl (fun h s => h ^^^ keyAt T Board.blank s) 0#64 = 0#64 := fun l => by
      induction l with
      | nil => rfl
      | cons t ts ih => rw [List.foldl_cons, keyAt_content, blank_content]; exact (BitVec.xor_zero).symm ▸ ih
    exact (h allSq).symm

/-! ### `Board.xor` calls commute -/

theorem Board.ext_fields {b b' : Board} (hp : ∀ q, b.pieces q = b'.pieces q)
    (hc : ∀ d, b.colorCombined d = b'.colorCombined d) (h1 : b.combined = b'.combined) (h2 : b.stm = b'.stm)
    (h3 : b.wcr = b'.wcr) (h4 : b.bcr = b'.bcr) (h5 : b.pinned = b'.pinned) (h6 : b.checkers = b'.checkers)
    (h7 : b.hash = b'.hash) (h8 : b.ep = b'.ep) : b = b' := by
  have p1 := hp .pawn; have p2 := hp .knight; have p3 := hp .bishop
  have p4 := hp .rook; have p5 := hp .queen; have p6 := hp .king
  have c1 := hc .white; have c2 := hc .black
  cases b; cases b'
  simp only [Board.pieces, Board.colorCombined] at *
  subst p1 p2 p3 p4 p5 p6 c1 c2 h1 h2 h3 h4 h5 h6 h7 h8
  rfl

theorem ite_xor_comm (P Q : Prop) [Decidable P] [Decidable Q] (x a b : BB) :
    (if Q then (if P then x ^^^ a else x) ^^^ b else if P then x ^^^ a else x) =
      if P then (if Q then x ^^^ b else x) ^^^ a else if Q then x ^^^ b else x := by
  by_cases hP : P <;> by_cases hQ : Q <;> simp only [hP, hQ, if_true, if_false]
  exact bv_xor_right_comm x a b

theorem xor_xor_comm (T : Tables) (b : Board) (p1 p2 : Piece) (bb1 bb2 : BB) (c1 c2 : Color) :
    (b.xor T p1 bb1 c1).xor T p2 bb2 c2 = (b.xor T p2 bb2 c2).xor T p1 bb1 c1 := by
  apply Board.ext_fields
  · intro q
    rw [xor_pieces, xor_pieces, xor_pieces, xor_pieces]
    exact ite_xor_comm _ _ _ _ _
  · intro d
    rw [xor_colorCombined, xor_colorCombined, xor_colorCombined, xor_colorCombined]
    exact ite_xor_comm _ _ _ _ _
  · rw [xor_combined, xor_combined, xor_combined, xor_combined]; exact bv_xor_right_comm _ _ _
  · rw [xor_stm, xor_stm, xor_stm, xor_stm]
  · rw [xor_wcr, xor_wcr, xor_wcr, xor_wcr]
  · rw [xor_bcr, xor_bcr, xor_bcr, xor_bcr]
  · rw [xor_pinned, xor_pinned, xor_pinned, xor_pinned]
  · rw [xor_checkers, xor_checkers, xor_checkers, xor_checkers]
  · rw [xor_hash, xor_hash, xor_hash, xor_hash]; exact bv_xor_right_comm _ _ _
  · rw [xor_ep, xor_ep, xor_ep, xor_ep]

/-- moving a man to an empty square: the two toggles `make_move_new` starts with -/
theorem Core.move_quiet {T : Tables} {b : Board} (h : Core T b) {S D : Sq} {p : Piece} {c : Color}
    (hS : b.content S = some (p, c)) (hD : b.content D = none) :
    Core T ((b.xor T p (BB.ofSq S) c).xor T p (BB.ofSq D) c) ∧
    ∀ t, ((b.xor T p (BB.ofSq S) c).xor T p (BB.ofSq D) c).content t =
      if t = D then some (p, c) else if t = S then none else b.content t := by
  have hne : D ≠ S := by intro e; rw [e, hS] at hD; cases hD
  obtain ⟨h1, c1⟩ := h.remove hS
  obtain ⟨h2, c2⟩ := h1.add p c (by rw [c1, if_neg hne, hD])
  exact ⟨h2, fun t => by rw [c2, c1]⟩

/-- moving a man onto an enemy man: the three toggles of `make_move_new`, which pass through a state
with two men on the destination; reordered by commutation into remove, remove, add -/
theorem Core.move_capture {T : Tables} {b : Board} (h : Core T b) {S D : Sq} {p q : Piece} {c o : Color}
    (hS : b.content S = some (p, c)) (hD : b.content D = some (q, o)) (hne : S ≠ D) :
    Core T (((b.xor T p (BB.ofSq S) c).xor T p (BB.ofSq D) c).xor T q (BB.ofSq D) o) ∧
    ∀ t, (((b.xor T p (BB.ofSq S) c).xor T p (BB.ofSq D) c).xor T q (BB.ofSq D) o).content t =
      if t = D then some (p, c) else if t = S then none else b.content t := by
  rw [xor_xor_comm T (b.xor T p (BB.ofSq S) c) p q, xor_xor_comm T b p q]
  obtain ⟨h1, c1⟩ := h.remove hD
  obtain ⟨h2, c2⟩ := h1.move_quiet (by rw [c1, if_neg hne, hS]) (by rw [c1, if_pos rfl])
  refine ⟨h2, fun t => ?_⟩
  rw [c2, c1]
  by_cases htD : t = D <;> simp only [htD, if_true, if_false]

end Chess
