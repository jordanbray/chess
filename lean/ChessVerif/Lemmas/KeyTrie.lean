import ChessVerif.Basic
/-! A small binary trie over the low bits of 64-bit keys with a verified membership test, and on it a
kernel-checkable form of "no key is the xor of two others" (`noTripleTrie_spec`).  The check that C09
runs is the Bloom-filtered scan of `Lemmas/KeyDeps.lean`; nothing imports this module. -/
namespace Chess

inductive Trie where
  | leaf (vals : List BB)
  | node (zero one : Trie)

namespace Trie

def empty : Nat → Trie
  | 0 => .leaf []
  | n+1 => .node (empty n) (empty n)

def insert : Trie → BB → Nat → Trie
  | .leaf vs, x, _ => .leaf (x :: vs)
  | .node a b, x, i => if x.getLsbD i then .node a (insert b x (i+1)) else .node (insert a x (i+1)) b

def mem : Trie → BB → Nat → Bool
  | .leaf vs, x, _ => vs.contains x
  | .node a b, x, i => if x.getLsbD i then mem b x (i+1) else mem a x (i+1)

theorem mem_empty (n : Nat) (x : BB) (i : Nat) : mem (empty n) x i = false := by
  induction n generalizing i with
  | zero => simp [empty, mem]
  | succ n ih => simp only [empty, mem]; split <;> exact ih _

theorem mem_insert (t : Trie) (x y : BB) (i : Nat) : mem (insert t y i) x i = (x == y || mem t x i) := by
  induction t generalizing i with
  | leaf vs =>
    simp only [insert, mem, List.contains_cons]
  | node a b iha ihb =>
    simp only [insert]
    by_cases hy : y.getLsbD i = true
    · simp only [hy, if_true, mem]
      by_cases hx : x.getLsbD i = true
      · simp only [hx, if_true]; exact ihb (i+1)
      · simp only [hx, if_false, Bool.false_eq_true]
        have : (x == y) = false := by
          apply beq_false_of_ne; intro h; rw [h] at hx; exact hx hy
        simp [this]
    · have hy' : y.getLsbD i = false := by cases h : y.getLsbD i <;> simp_all
      simp only [hy', Bool.false_eq_true, if_false, mem]
      by_cases hx : x.getLsbD i = true
      · simp only [hx, if_true]
        have : (x == y) = false := by
          apply beq_false_of_ne; intro h; rw [h] at hx; rw [hx] at hy'; cases hy'
        simp [this]
      · simp only [hx, if_false, Bool.false_eq_true]; exact iha (i+1)

def build (depth : Nat) (keys : List BB) : Trie := keys.foldl (fun t k => insert t k 0) (empty depth)

theorem mem_foldl (keys : List BB) (t : Trie) (x : BB) :
    mem (keys.foldl (fun t k => insert t k 0) t) x 0 = (keys.contains x || mem t x 0) := by
  induction keys generalizing t with
  | nil => simp
  | cons k ks ih =>
    simp only [List.foldl_cons]
    rw [ih, mem_insert, List.contains_cons]
    cases (ks.contains x) <;> cases (x == k) <;> cases (mem t x 0) <;> rfl

theorem mem_build (depth : Nat) (keys : List BB) (x : BB) : mem (build depth keys) x 0 = keys.contains x := by
  unfold build; rw [mem_foldl, mem_empty]; simp

end Trie

/-- for every pair of list positions i < j: `k_i ^^^ k_j` is not in the trie -/
def noTripleTrie (t : Trie) : List BB → Bool
  | [] => true
  | x :: xs => xs.all (fun y => !t.mem (x ^^^ y) 0) && noTripleTrie t xs

theorem noTripleTrie_spec (keys : List BB) (depth : Nat) :
    ∀ l : List BB, noTripleTrie (Trie.build depth keys) l = true →
      l.Pairwise (fun a b => (a ^^^ b) ∉ keys) := by
  intro l
  induction l with
  | nil => intro _; exact List.Pairwise.nil
  | cons x xs ih =>
    intro h
    simp only [noTripleTrie, Bool.and_eq_true, List.all_eq_true] at h
    refine List.Pairwise.cons ?_ (ih h.2)
    intro y hy hmem
    have := h.1 y hy
    rw [Trie.mem_build] at this
    have hc : keys.contains (x ^^^ y) = true := List.contains_iff_mem.mpr hmem |> fun h => by simpa using h
    rw [hc] at this; cases this

end Chess
