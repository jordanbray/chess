import ChessVerif.Spec.Accept
import ChessVerif.Spec.WfOracle
import ChessVerif.Props.C07Full
import ChessVerif.Props.C03
import ChessVerif.Lemmas.Final
/-!
# The oracles of the correspondence driver hold of the model's own outputs

* `AcceptP p`: the readable meaning of the acceptance oracle `acceptedOk` (`Spec/Accept.lean`), in the
  vocabulary of `Spec/Rules.lean`; `acceptedOk_none_iff`.
* `AcceptP` of every board accepted by `try_from`, of every valid position, and of its `norm`.
* `wfOk_of_exact`: `wfOk` (`Spec/WfOracle.lean`) of every `Struct` board whose `checkers` and own `pinned`
  men are those of the specification (applied to `Good` boards and to boards accepted by `try_from` in
  `Props/C07Oracle.lean`).
-/
namespace Chess
namespace OracleSound

/-- the four "only if" conditions of C07, as a proposition -/
structure AcceptP (p : Pos) : Prop where
  king : ∀ c, count p (· == (.king, c)) = 1
  notInCheck : inCheck p p.stm.other = false
  ck : ∀ c, p.castleK c = true →
    (homeSq c 4).any (p.has · .king c) = true ∧ (homeSq c 7).any (p.has · .rook c) = true
  cq : ∀ c, p.castleQ c = true →
    (homeSq c 4).any (p.has · .king c) = true ∧ (homeSq c 0).any (p.has · .rook c) = true
  ep : ∀ q, p.ep = some q →
    p.has q .pawn p.stm.other = true ∧ q.rank = p.stm.other.pawnRank + 2 * p.stm.other.fwd

theorem ite_some_none {α : Type} {c : Prop} [Decidable c] {x : α} {y : Option α} :
    (if c then some x else y) = none ↔ ¬ c ∧ y = none := by
  split <;> simp [*]

theorem acceptedOk_none_iff (p : Pos) : acceptedOk p = none ↔ AcceptP p := by
  unfold acceptedOk
  simp only [ite_some_none, Bool.not_eq_true, Bool.not_eq_false', allColors_all, beq_iff_eq, Bool.and_eq_true,
    Closure.not_or_eq_true]
  constructor
  · rintro ⟨h1, h2, h3, h4⟩
    refine ⟨h1, h2, fun c => (h3 c).1, fun c => (h3 c).2, fun q hq => ?_⟩
    rw [hq] at h4
    exact Decidable.of_not_not fun hn => by simp only [if_neg hn] at h4; cases h4
  · intro h
    refine ⟨h.king, h.notInCheck, fun c => ⟨h.ck c, h.cq c⟩, ?_⟩
    cases hq : p.ep with
    | none => rfl
    | some q => exact if_pos (h.ep q hq)

theorem acceptP_of_tryFrom {T : Tables} (hT : TablesOK T) {bd : Builder} {b : Board}
    (h : Board.tryFrom T bd = some b) : AcceptP b.abs where
  king := Props.C07_one_king_each h
  notInCheck := Props.C07_nonmover_not_in_check hT h
  ck := fun c => (Props.C07_rights_backed hT h c).1
  cq := fun c => (Props.C07_rights_backed hT h c).2
  ep := fun q hq =>
    have := Props.C07_ep_refers_to_pawn h q hq
    ⟨this.1, this.2.2.1⟩

theorem acceptP_of_valid {p : Pos} (hv : Valid p = true) : AcceptP p := by
  have v := (Closure.valid_iff p).mp hv
  refine ⟨v.king, v.notInCheck, v.ck, v.cq, ?_⟩
  intro q hq
  have he := v.ep
  unfold epValid at he
  rw [hq] at he
  simp only [Bool.and_eq_true, beq_iff_eq] at he
  exact ⟨he.1.1, he.1.2⟩

/-- the conditions look at the en-passant mark in the last clause only, and `norm` keeps the mark or drops it -/
theorem AcceptP.norm {p : Pos} (h : AcceptP p) : AcceptP (norm p) :=
  ⟨h.king, h.notInCheck, h.ck, h.cq, fun q hq => h.ep q (norm_ep_some hq)⟩

/-! ### the check/pin/occupancy oracle -/

theorem occConsistent_of_struct {b : Board} (hs : Struct b) : occConsistent b = true := by
  obtain ⟨_, _, _, _, hcc, hcp, hcd, hpd⟩ := Props.C03_occupancy_consistent hs
  unfold occConsistent
  simp only [Bool.and_eq_true, beq_iff_eq, List.all_eq_true, Bool.or_eq_true]
  refine ⟨⟨⟨?_, hcd⟩, hcc.symm⟩, ?_⟩
  · intro x _ y _
    by_cases hxy : x = y
    · exact .inl hxy
    · exact .inr (hpd x y hxy)
  · rw [hcp]
    simp only [allPieces, List.foldl_cons, List.foldl_nil, BitVec.zero_or]

theorem setOf_eq_of_bits {x : BB} {f : Sq → Bool} (h : ∀ s : Sq, x.getLsbD s.val = f s) :
    x = Geom.setOf f := by
  apply BitVec.eq_of_getLsbD_eq
  intro i hi
  have := h ⟨i, hi⟩
  rw [mem_setOf f ⟨i, hi⟩]
  exact this

theorem wfOk_of_exact {b : Board} (hs : Struct b)
    (hc : ∀ x : Sq, b.checkers.getLsbD x.val = checkerSq b.abs x)
    (hp : ∀ y : Sq, (b.pinned &&& b.colorCombined b.stm).getLsbD y.val = pinnedSq b.abs y) :
    wfOk b b.abs = true := by
  unfold wfOk specCheckers specPinnedMine mine
  rw [occConsistent_of_struct hs, ← setOf_eq_of_bits hc, ← setOf_eq_of_bits hp]
  simp

end OracleSound
end Chess
