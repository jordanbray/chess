import ChessVerif.Lemmas.BitBoard
import ChessVerif.Lemmas.Rules
import ChessVerif.Geom
/-
Geometry, part 1: membership in every `Geom` bitboard as its defining Boolean predicate.
-/
namespace Chess

/-! ### membership in `setOf` tables -/

theorem mem_setOf (p : Sq → Bool) (s : Sq) : (Geom.setOf p).getLsbD s.val = p s := by
  unfold Geom.setOf
  rw [BB.getLsbD_ofList]
  cases h : p s <;> simp [List.mem_filter, allSq, List.mem_finRange, h]

theorem mem_between (a b x : Sq) : (Geom.between a b).getLsbD x.val = strictlyBetween a x b :=
  mem_setOf _ x

theorem mem_line (a b x : Sq) : (Geom.line a b).getLsbD x.val =
    (a != b && (b.file - a.file == 0 || b.rank - a.rank == 0 ||
        (b.file - a.file).natAbs == (b.rank - a.rank).natAbs) &&
      (x.file - a.file) * (b.rank - a.rank) == (x.rank - a.rank) * (b.file - a.file)) :=
  mem_setOf _ x

theorem mem_king (s x : Sq) : (Geom.king s).getLsbD x.val =
    (x != s && decide ((x.file - s.file).natAbs ≤ 1) && decide ((x.rank - s.rank).natAbs ≤ 1)) :=
  mem_setOf _ x

theorem mem_knight (s x : Sq) : (Geom.knight s).getLsbD x.val =
    (((x.file - s.file).natAbs == 1 && (x.rank - s.rank).natAbs == 2) ||
     ((x.file - s.file).natAbs == 2 && (x.rank - s.rank).natAbs == 1)) :=
  mem_setOf _ x

theorem mem_pawnAttacks (c : Color) (s x : Sq) : (Geom.pawnAttacks c s).getLsbD x.val =
    (x.rank - s.rank == c.fwd && (x.file - s.file).natAbs == 1) :=
  mem_setOf _ x

theorem mem_pawnMoves (c : Color) (s x : Sq) : (Geom.pawnMoves c s).getLsbD x.val =
    (x.file == s.file && (x.rank - s.rank == c.fwd ||
      (x.rank - s.rank == 2 * c.fwd && s.rank == c.pawnRank))) :=
  mem_setOf _ x

theorem mem_files (f : Fin 8) (x : Sq) : (Geom.files f).getLsbD x.val = (x.fileN == f.val) :=
  mem_setOf _ x

theorem mem_ranks (r : Fin 8) (x : Sq) : (Geom.ranks r).getLsbD x.val = (x.rankN == r.val) :=
  mem_setOf _ x

theorem mem_adjFiles (f : Fin 8) (x : Sq) :
    (Geom.adjFiles f).getLsbD x.val = ((x.file - (f.val : Int)).natAbs == 1) :=
  mem_setOf _ x

theorem mem_edges (x : Sq) : Geom.edges.getLsbD x.val =
    (x.fileN == 0 || x.fileN == 7 || x.rankN == 0 || x.rankN == 7) :=
  mem_setOf _ x

theorem mem_pawnSrcDouble (x : Sq) :
    Geom.pawnSrcDouble.getLsbD x.val = (x.rankN == 1 || x.rankN == 6) :=
  mem_setOf _ x

theorem mem_pawnDstDouble (x : Sq) :
    Geom.pawnDstDouble.getLsbD x.val = (x.rankN == 3 || x.rankN == 4) :=
  mem_setOf _ x

theorem mem_ksCastle (c : Color) (x : Sq) : (Geom.ksCastle c).getLsbD x.val =
    (x.rank == c.homeRank && (x.fileN == 5 || x.fileN == 6)) :=
  mem_setOf _ x

theorem mem_qsCastle (c : Color) (x : Sq) : (Geom.qsCastle c).getLsbD x.val =
    (x.rank == c.homeRank && (x.fileN == 1 || x.fileN == 2 || x.fileN == 3)) :=
  mem_setOf _ x

theorem mem_castleMoves (x : Sq) : Geom.castleMoves.getLsbD x.val =
    ((x.rankN == 0 || x.rankN == 7) && (x.fileN == 2 || x.fileN == 4 || x.fileN == 6)) :=
  mem_setOf _ x

/-! ### coordinates -/

theorem Sq.file_eq_fileN (s : Sq) : s.file = (s.fileN : Int) := rfl
theorem Sq.rank_eq_rankN (s : Sq) : s.rank = (s.rankN : Int) := rfl

end Chess
