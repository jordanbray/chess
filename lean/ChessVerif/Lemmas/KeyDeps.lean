import ChessVerif.Gen.Data
/-!
# No two Zobrist keys are equal, and none is the xor of two others — the kernel-checkable test and
# its soundness

Works on the literal key list `Gen.zKeyList : List Nat`.  All evaluation-relevant definitions use the
kernel-accelerated `Nat` primitives (`Nat.xor`, `Nat.mod`, `Nat.shiftRight`, `Nat.land`, `Nat.beq`)
directly and recurse with `List.rec`-style structural recursion, so that `decide +kernel` on a chunk
of outer keys costs a few hundred thousand kernel reductions.

Membership test: two Bloom bitmaps (`bloomA`: bit `k % 65536`, `bloomB`: bit `(k >>> 16) % 65536`
for every key `k`) are consulted first; only if both bits are set is the key list scanned.
-/
namespace Chess.KeyDeps

/-- bit `n` of `F`, on accelerated primitives -/
def bit (F n : Nat) : Bool := Nat.beq (Nat.land 1 (Nat.shiftRight F n)) 1

def hashA (k : Nat) : Nat := Nat.mod k 65536
def hashB (k : Nat) : Nat := Nat.mod (Nat.shiftRight k 16) 65536

/-- bitmap with bit `h k` set for every `k` of the list -/
def bloom (h : Nat → Nat) : List Nat → Nat
  | [] => 0
  | k :: ks => Nat.lor (Nat.shiftLeft 1 (h k)) (bloom h ks)

def scan (x : Nat) : List Nat → Bool
  | [] => false
  | k :: ks => match Nat.beq x k with
    | true => true
    | false => scan x ks

/-- filtered membership in `ks`, given bitmaps `A`, `B` -/
def memFast (A B : Nat) (ks : List Nat) (x : Nat) : Bool :=
  match bit A (hashA x) with
  | false => false
  | true => match bit B (hashB x) with
    | false => false
    | true => scan x ks

/-- `x ^^^ y` is not a key, for every `y` of the list -/
def inner (A B : Nat) (ks : List Nat) (x : Nat) : List Nat → Bool
  | [] => true
  | y :: ys => match memFast A B ks (Nat.xor x y) with
    | true => false
    | false => inner A B ks x ys

/-- the first `n` elements of the list, each against its tail -/
def ntFrom (A B : Nat) (ks : List Nat) : List Nat → Nat → Bool
  | [], _ => true
  | _ :: _, 0 => true
  | x :: xs, n+1 => match inner A B ks x xs with
    | false => false
    | true => ntFrom A B ks xs n

/-! ## soundness -/

theorem bit_eq_testBit (F n : Nat) : bit F n = F.testBit n := by
  unfold bit Nat.testBit
  show Nat.beq (1 &&& (F >>> n)) 1 = _
  have h : 1 &&& (F >>> n) = (F >>> n) % 2 := by rw [Nat.and_comm]; exact Nat.and_one_is_mod _
  rw [h]
  rcases Nat.mod_two_eq_zero_or_one (F >>> n) with h | h <;> rw [h] <;> rfl

theorem bloom_testBit (h : Nat → Nat) (ks : List Nat) (k : Nat) (hk : k ∈ ks) :
    (bloom h ks).testBit (h k) = true := by
  induction ks with
  | nil => cases hk
  | cons a as ih =>
    show (1 <<< h a ||| bloom h as).testBit (h k) = true
    rw [Nat.testBit_or]
    rcases List.mem_cons.mp hk with rfl | hk
    · simp [Nat.testBit_shiftLeft]
    · rw [ih hk]; simp

theorem scan_eq_true (x : Nat) (ks : List Nat) (hx : x ∈ ks) : scan x ks = true := by
  induction ks with
  | nil => cases hx
  | cons a as ih =>
    unfold scan
    rcases List.mem_cons.mp hx with rfl | hx
    · have : Nat.beq x x = true := Nat.beq_refl x
      rw [this]
    · split
      · rfl
      · exact ih hx

theorem memFast_eq_true (ks : List Nat) (x : Nat) (hx : x ∈ ks) :
    memFast (bloom hashA ks) (bloom hashB ks) ks x = true := by
  unfold memFast
  rw [bit_eq_testBit, bit_eq_testBit, bloom_testBit hashA ks x hx, bloom_testBit hashB ks x hx]
  exact scan_eq_true x ks hx

theorem inner_spec (ks : List Nat) (x : Nat) (ys : List Nat)
    (h : inner (bloom hashA ks) (bloom hashB ks) ks x ys = true) : ∀ y ∈ ys, x ^^^ y ∉ ks := by
  induction ys with
  | nil => intro y hy; cases hy
  | cons a as ih =>
    unfold inner at h
    split at h
    · cases h
    · rename_i hm
      intro y hy
      rcases List.mem_cons.mp hy with rfl | hy
      · intro hmem
        have := memFast_eq_true ks _ hmem
        change memFast _ _ ks (Nat.xor x y) = true at this
        rw [this] at hm; cases hm
      · exact ih h y hy

/-- gluing: the first `n` outer elements, then `m` more -/
theorem ntFrom_add (A B : Nat) (ks l : List Nat) (n m : Nat)
    (h1 : ntFrom A B ks l n = true) (h2 : ntFrom A B ks (l.drop n) m = true) :
    ntFrom A B ks l (n + m) = true := by
  induction n generalizing l with
  | zero => simpa using h2
  | succ n ih =>
    cases l with
    | nil => rfl
    | cons x xs =>
      rw [Nat.add_right_comm]
      unfold ntFrom at h1 ⊢
      split at h1
      · cases h1
      · rename_i hin
        exact ih xs h1 (by simpa using h2)

theorem ntFrom_spec (ks l : List Nat) (n : Nat) (hn : l.length ≤ n)
    (h : ntFrom (bloom hashA ks) (bloom hashB ks) ks l n = true) :
    l.Pairwise (fun a b => a ^^^ b ∉ ks) := by
  induction l generalizing n with
  | nil => exact List.Pairwise.nil
  | cons x xs ih =>
    cases n with
    | zero => simp at hn
    | succ n =>
      unfold ntFrom at h
      split at h
      · cases h
      · rename_i hin
        exact List.Pairwise.cons (inner_spec ks x xs hin) (ih n (by simpa using hn) h)

theorem pairwise_getElem_ne {α} {R : α → α → Prop} (hs : ∀ a b, R a b → R b a) {l : List α}
    (h : l.Pairwise R) (i j : Nat) (hi : i < l.length) (hj : j < l.length) (hij : i ≠ j) : R l[i] l[j] := by
  rw [List.pairwise_iff_getElem] at h
  rcases Nat.lt_or_gt_of_ne hij with h1 | h1
  · exact h i j hi hj h1
  · exact hs _ _ (h j i hj hi h1)

/-- a pairwise fact on a list of 64-bit `Nat`s, read on the `BB`s they denote.  With `0` among the
excluded values the xor of two entries is in particular not `0`: the entries are distinct. -/
theorem pairwise_ofNat (ks : List Nat) (hlt : ∀ k ∈ ks, k < 2 ^ 64)
    (hp : ks.Pairwise (fun a b => a ^^^ b ∉ 0 :: ks)) :
    (ks.map (BitVec.ofNat 64)).Pairwise (fun a b => a ≠ b ∧ a ^^^ b ∉ ks.map (BitVec.ofNat 64)) := by
  rw [List.pairwise_map]
  refine hp.imp_of_mem ?_
  intro a b ha hb hab
  have hxor : ∀ z, z < 2 ^ 64 → BitVec.ofNat 64 a ^^^ BitVec.ofNat 64 b = BitVec.ofNat 64 z → a ^^^ b = z := by
    intro z hz hzeq
    rw [← BitVec.ofNat_xor] at hzeq
    have h2 := congrArg BitVec.toNat hzeq
    simp only [BitVec.toNat_ofNat] at h2
    rwa [Nat.mod_eq_of_lt hz, Nat.mod_eq_of_lt (Nat.xor_lt_two_pow (hlt a ha) (hlt b hb))] at h2
  constructor
  · intro h
    exact hab (hxor 0 (by decide) (by rw [h, BitVec.xor_self]) ▸ List.mem_cons_self ..)
  · intro hmem
    rcases List.mem_map.mp hmem with ⟨z, hz, hzeq⟩
    exact hab (hxor z (hlt z hz) hzeq.symm ▸ List.mem_cons_of_mem _ hz)

/-! ## the keys of the code -/

def keys : List Nat := Gen.zKeyList
/-- the values the xor of two keys is checked against: every key, and `0` -/
def keys0 : List Nat := 0 :: keys
def bloomA : Nat := bloom hashA keys0
def bloomB : Nat := bloom hashB keys0

/-- the chunked check: outer elements `start … start+len-1` -/
def chunkOK (start len : Nat) : Bool := ntFrom bloomA bloomB keys0 (keys.drop start) len

end Chess.KeyDeps
