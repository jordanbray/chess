import ChessVerif.Lemmas.Fen
import ChessVerif.Spec.StdFen
import ChessVerif.Refine.Abs
/-!
Lemmas about the independent standard FEN writer `Spec.stdFen` (`ChessVerif/Spec/StdFen.lean`):
its text is, field by field, what the Model's writer `showBuilderWith` produces for the builder state
`p.toBuilder` — except that the two counters are arbitrary decimal numbers — so the reader
`parseBuilder` and the standard decoder `Fen.decode` read it back as `p`.  Used by `Props/C06Std.lean`.
-/
namespace Chess
open Spec

/-! ### the placement field -/

theorem pieceCharStd_eq (p : Piece) (c : Color) : pieceCharStd (p, c) = pieceLetter p c := by
  cases p <;> cases c <;> decide

theorem flushRun_eq (n : Nat) : flushRun n = if n ≠ 0 then digitChar n else [] := by
  unfold flushRun digitChar
  by_cases h : n = 0
  · simp [h]
  · rw [if_neg h, if_pos h]; rfl

theorem showRank_go_eq_rle (pieces : Sq → Option (Piece × Color)) (r : Fin 8) :
    ∀ (files : List (Fin 8)) (count : Nat),
      showRank.go pieces r files count = rle (files.map fun f => pieces (mkSq r f)) count
  | [], count => by rw [showRank_go_nil, List.map_nil, rle, flushRun_eq]
  | f :: fs, count => by
    cases hp : pieces (mkSq r f) with
    | none =>
      rw [showRank_go_none _ _ _ _ _ hp, List.map_cons, hp, rle, showRank_go_eq_rle pieces r fs]
    | some pc =>
      obtain ⟨p, c⟩ := pc
      rw [showRank_go_some _ _ _ _ _ _ _ hp, List.map_cons, hp, rle, showRank_go_eq_rle pieces r fs,
        flushRun_eq, pieceCharStd_eq]

/-- the Spec's run-length coder and the Model's file loop write the same text for every rank -/
theorem rle_rankRow (board : Sq → Option (Piece × Color)) (r : Fin 8) :
    rle (rankRow board r) 0 = showRank board r := by
  unfold showRank rankRow
  rw [showRank_go_eq_rle]
  rfl

theorem placementStd_eq (board : Sq → Option (Piece × Color)) :
    placementStd board = placementStr board := by
  unfold placementStd placementStr
  simp only [List.map_cons, List.map_nil, joinSlash, rle_rankRow]

/-! ### side, castling -/

theorem sideStd_eq (c : Color) : sideStd c = sideStr c := by cases c <;> rfl

theorem castleStd_aux : ∀ wk wq bk bq : Bool,
    (let s : List Char :=
      (if wk then ['K'] else []) ++ (if wq then ['Q'] else []) ++
      (if bk then ['k'] else []) ++ (if bq then ['q'] else [])
     if s.isEmpty then ['-'] else s) = castleField ⟨wk, wq⟩ ⟨bk, bq⟩ := by
  decide

theorem castleStd_eq (p : Pos) :
    castleStd p = castleField p.toBuilder.wcr p.toBuilder.bcr :=
  castleStd_aux _ _ _ _

/-! ### the en-passant field -/

/-- a mark on the pusher's fourth rank: its target square exists, it is the square the Model's writer
prints for the recorded file, and the mark is determined by its file -/
theorem epTarget_facts : ∀ (c : Color) (q : Sq), q.rank = c.pawnRank + 2 * c.fwd →
    sq? q.file (q.rank - c.fwd) = some ((mkSq c.fourthRank q.getFile).ubackward c) ∧
    q = mkSq c.fourthRank q.getFile := by
  intro c
  cases c
  · decide
  · decide

/-- Hypothesis of the theorems: the mark, if any, stands on the fourth rank of the side that just
moved (part of `Valid`). -/
def EpRankOK (p : Pos) : Prop := ∀ q, p.ep = some q → q.rank = p.stm.other.pawnRank + 2 * p.stm.other.fwd

theorem epStd_eq (p : Pos) (h : EpRankOK p) : epStd p = epField p.toBuilder.epShown := by
  unfold epStd epTarget Builder.epShown Builder.getEnPassant Pos.toBuilder
  cases hq : p.ep with
  | none => rfl
  | some q =>
    obtain ⟨h1, _⟩ := epTarget_facts p.stm.other q (h q hq)
    simp only [Option.bind_some, h1, Option.map_some, epField, sqName_eq_showSquare]

theorem toBuilder_getEnPassant_of_rank (p : Pos) (h : EpRankOK p) : p.toBuilder.getEnPassant = p.ep :=
  Builder.getEnPassant_of_fourthRank rfl fun q hq => by
    have := congrArg Sq.getRank (epTarget_facts p.stm.other q (h q hq)).2
    rwa [getRank_mkSq] at this

/-! ### the counters -/

theorem repr_no_space (n : Nat) : ∀ x ∈ (Nat.repr n).toList, x ≠ ' ' := by
  intro x hx
  rw [Nat.toList_repr] at hx
  have := Nat.isDigit_of_mem_toDigits (by decide) (by decide) hx
  intro h; subst h; revert this; decide

theorem repr_isNat (n : Nat) : Fen.isNat (Nat.repr n).toList = true := by
  unfold Fen.isNat
  rw [Nat.toList_repr]
  simp only [Bool.and_eq_true, Bool.not_eq_true', List.isEmpty_eq_false_iff, List.all_eq_true]
  exact ⟨Nat.toDigits_ne_nil, fun x hx => Nat.isDigit_of_mem_toDigits (by decide) (by decide) hx⟩

/-! ### the six fields -/

theorem stdFen_eq (p : Pos) (half full : Nat) (h : EpRankOK p) :
    stdFen p half full =
      fenText p.toBuilder p.toBuilder.epShown (Nat.repr half).toList (Nat.repr full).toList := by
  unfold stdFen fenText
  rw [placementStd_eq, sideStd_eq, castleStd_eq, epStd_eq p h]
  simp [Pos.toBuilder, List.append_assoc]

end Chess
