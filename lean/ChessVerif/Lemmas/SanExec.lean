import ChessVerif.Spec.SanExec
import ChessVerif.Lemmas.Plausible
import ChessVerif.Lemmas.SanScan
import ChessVerif.Lemmas.Final
/-!
Helpers for `Props/C12Exec.lean`: the executable SAN oracle `SanSpec.isSpellingB` / `SanSpec.sanDenotes` decides
exactly `SanSpec.IsSpelling`, and a text is an admissible spelling of at most one legal move.
-/
namespace Chess
namespace SanSpec

/-! ### the oracle's two branches -/

/-- `any` over a list that enumerates the whole type -/
theorem any_iff_exists {α} {l : List α} (hl : ∀ x, x ∈ l) (f : α → Bool) :
    l.any f = true ↔ ∃ x, f x = true := by
  rw [List.any_eq_true]
  exact ⟨fun ⟨x, _, h⟩ => ⟨x, h⟩, fun ⟨x, h⟩ => ⟨x, hl x, h⟩⟩

theorem any_suffix (f : Suffix → Bool) :
    [Suffix.none, .check, .mate].any f = true ↔ ∃ sfx, f sfx = true :=
  any_iff_exists (fun x => by cases x <;> simp) f

theorem isSpellingB_castle {p : Pos} {lm : List Move} {m : Move} {s : List Char} (hc : isCastle p m = true) :
    isSpellingB p lm m s = true ↔
      ∃ sfx, s = (if m.dst.file > m.src.file then "O-O".toList else "O-O-O".toList) ++ suffixText sfx := by
  unfold isSpellingB
  rw [if_pos hc, any_suffix]
  simp only [beq_iff_eq]

theorem pawnCapture_iff (p : Pos) (m : Move) (d : Disamb) :
    (!(((p.board m.src).map (·.1) == some Piece.pawn) && isCapture p m) || d == .file || d == .both) = true ↔
      (((p.board m.src).map (·.1) = some .pawn ∧ isCapture p m = true) → d = .file ∨ d = .both) := by
  cases h1 : ((p.board m.src).map (·.1) == some Piece.pawn) <;> cases h2 : isCapture p m <;>
    simp only [beq_eq_false_iff_ne, beq_iff_eq, ne_eq] at h1 <;>
    simp [h1]

theorem isSpellingB_nonCastle {p : Pos} {m : Move} {s : List Char} (hc : isCastle p m = false) :
    isSpellingB p (legalMoves p) m s = true ↔
      ∃ d sfx epMark, unambiguous p d m = true ∧ (epMark = true → isEnPassant p m = true) ∧
        (((p.board m.src).map (·.1) = some .pawn ∧ isCapture p m = true) → d = .file ∨ d = .both) ∧
        s = spell p m d sfx epMark := by
  unfold isSpellingB
  rw [hc]
  simp only [Bool.false_eq_true, if_false]
  rw [any_iff_exists (fun x => by cases x <;> simp)]
  refine exists_congr fun d => ?_
  rw [Bool.and_eq_true, pawnCapture_iff, any_suffix]
  simp only [any_iff_exists (l := [false, true]) (fun x => by cases x <;> simp), Bool.and_eq_true,
    beq_iff_eq]
  have he : ∀ e : Bool, (!e || isEnPassant p m) = true ↔ (e = true → isEnPassant p m = true) := by
    intro e; cases e <;> simp
  constructor
  · rintro ⟨hpc, sfx, e, ⟨h1, hs⟩, hu⟩
    exact ⟨sfx, e, hu, (he e).1 h1, hpc, hs⟩
  · rintro ⟨sfx, e, hu, h1, hpc, hs⟩
    exact ⟨hpc, sfx, e, ⟨(he e).2 h1, hs⟩, hu⟩

/-! ### a text is an admissible spelling of at most one legal move -/

/-- equal scanned source parts under `d₁`, `d₂`: the disambiguation kinds are equal and the sources agree on the
spelled parts -/
theorem disamb_eq {d1 d2 : Disamb} {a b : Sq} (hf : San.disambFile d1 a = San.disambFile d2 b)
    (hr : San.disambRank d1 a = San.disambRank d2 b) :
    d1 = d2 ∧ (d1 = .file → b.file = a.file) ∧ (d1 = .rank → b.rank = a.rank) ∧ (d1 = .both → b = a) := by
  cases d1 <;> cases d2 <;> simp only [San.disambFile, San.disambRank, Option.some.injEq, reduceCtorEq] at hf hr <;>
    refine ⟨rfl, ?_, ?_, ?_⟩ <;> intro h <;> cases h
  · exact ((San.getFile_eq_iff _ _).1 hf).symm
  · exact ((San.getRank_eq_iff _ _).1 hr).symm
  · exact (San.sq_ext_fr hf hr).symm

/-- two legal non-castling moves with a common text, the first spelled unambiguously: the same move -/
theorem spell_unique {p : Pos} {m1 m2 : Move} {d1 d2 : Disamb} {s1 s2 : Suffix} {e1 e2 : Bool}
    (h1 : legal p m1 = true) (h2 : legal p m2 = true) (hu : unambiguous p d1 m1 = true)
    (heq : spell p m1 d1 s1 e1 = spell p m2 d2 s2 e2) : m2 = m1 := by
  obtain ⟨pc1, hb1⟩ := San.board_of_legal h1
  obtain ⟨pc2, hb2⟩ := San.board_of_legal h2
  have q1 := San.scan_spell p m1 d1 s1 e1 pc1 _ hb1 (San.promo_of_legal h1)
  have q2 := San.scan_spell p m2 d2 s2 e2 pc2 _ hb2 (San.promo_of_legal h2)
  rw [heq, q2, Option.some.injEq, San.Fields.mk.injEq] at q1
  obtain ⟨hpc, hf, hr, _, hd, hpr, _⟩ := q1
  obtain ⟨_, hsf, hsr, hsb⟩ := disamb_eq hf.symm hr.symm
  have hag : agrees p d1 m1 m2 = true := by
    unfold agrees
    rw [hb1, hb2, hpc, hd, hpr]
    cases d1
    · simp
    · simp [hsf rfl]
    · simp [hsr rfl]
    · simp [hsb rfl]
  unfold unambiguous at hu
  have := List.all_eq_true.1 hu m2 ((Plausible.mem_legalMoves_iff p m2).mpr h2)
  rw [hag] at this
  simpa using this

/-- castling text is no spelling of a non-castling move -/
theorem castle_ne_spell {p : Pos} {m m' : Move} (h : legal p m = true) (sf : Suffix) (d : Disamb)
    (sfx : Suffix) (ep : Bool) :
    (if m'.dst.file > m'.src.file then "O-O".toList else "O-O-O".toList) ++ suffixText sf ≠
      spell p m d sfx ep := by
  obtain ⟨pc, hb⟩ := San.board_of_legal h
  intro he
  apply San.castleText_spell p m d sfx ep pc _ hb
  rw [← he]
  split
  · exact .inl (San.castleText_short sf)
  · exact .inr (San.castleText_long sf)

/-- **uniqueness**: a text is an admissible spelling of at most one legal move -/
theorem isSpelling_unique {p : Pos} {m1 m2 : Move} {s : List Char}
    (h1 : IsSpelling p m1 s) (h2 : IsSpelling p m2 s) : m1 = m2 := by
  obtain ⟨l1, h1⟩ := h1
  obtain ⟨l2, h2⟩ := h2
  rcases h1 with ⟨c1, sf1, e1⟩ | ⟨c1, d1, sf1, ep1, u1, _, _, e1⟩ <;>
    rcases h2 with ⟨c2, sf2, e2⟩ | ⟨c2, d2, sf2, ep2, u2, _, _, e2⟩
  · -- both castle: the texts say to which side
    rw [San.castle_shape l1 c1, San.castle_shape l2 c2]
    have t := congrArg San.castleText (e1.symm.trans e2)
    by_cases g1 : m1.dst.file > m1.src.file <;> by_cases g2 : m2.dst.file > m2.src.file <;>
      simp only [g1, g2, if_true, if_false, San.castleText_short, San.castleText_long] at t ⊢
    · exact absurd t (by decide)
    · exact absurd t (by decide)
  · exact absurd (e1.symm.trans e2) (castle_ne_spell l2 sf1 d2 sf2 ep2)
  · exact absurd (e2.symm.trans e1) (castle_ne_spell l1 sf2 d1 sf1 ep1)
  · exact (spell_unique l1 l2 u1 (e1.symm.trans e2)).symm

theorem legalMoves_nodup (p : Pos) : (legalMoves p).Nodup :=
  List.Nodup.sublist List.filter_sublist (Final.candidates_nodup p)

end SanSpec
end Chess
