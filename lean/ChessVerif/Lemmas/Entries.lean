import ChessVerif.Lemmas.Iter
import ChessVerif.Lemmas.Core
/-!
# The entry list of `enumerate_moves`, structurally

A description of `MoveGen.enumerate T b` and of `Board.legalMoves T b` that mentions no chess
geometry: which entries `(source, destination set, promotion flag)` the generator pushes, in terms
of the bits of the board and of the per-source destination sets *exactly as the code computes them*
(`destsPawn`, `destsKnight`, `destsGeneric`, `destsKing`, and the en-passant entries).

The entry list is an explicit concatenation of sections, in generator order (`enumerate_eq`); from it,
membership in the entry list and in the generated move list, `legalMoves_nodup` (no move is generated
twice), and the agreement of `Board::legal` with the generator.
-/
namespace Chess
namespace Entries

open MoveGen Iter

/-! ### list helpers -/

theorem foldl_cond_append {α β : Type} (c : α → Prop) [DecidablePred c] (f : α → β) (xs : List α) :
    ∀ init : List β, xs.foldl (fun l x => if c x then l ++ [f x] else l) init =
      init ++ (xs.filter fun x => decide (c x)).map f := by
  induction xs with
  | nil => intro init; simp
  | cons a as ih =>
    intro init
    rw [List.foldl_cons, ih, List.filter_cons]
    by_cases ha : c a <;> simp [ha]

def pushList (f : Sq → Entry) (xs : List Sq) : List Entry :=
  (xs.filter fun s => decide ((f s).bb ≠ 0#64)).map f

/-- `for src in xs { if f(src).bb != EMPTY { list.push(f(src)) } }` -/
theorem foldl_pushIf (f : Sq → Entry) (xs : List Sq) (init : List Entry) :
    xs.foldl (fun l src => pushIf l (f src)) init = init ++ pushList f xs :=
  foldl_cond_append (fun s => (f s).bb ≠ 0#64) f xs init

theorem pushList_congr {f g : Sq → Entry} {xs : List Sq} (h : ∀ s ∈ xs, f s = g s) :
    pushList f xs = pushList g xs := by
  unfold pushList
  rw [List.filter_congr fun s hs => by rw [h s hs]]
  exact List.map_congr_left fun s hs => h s (List.mem_filter.mp hs).1

theorem pushList_eq_nil {f : Sq → Entry} {xs : List Sq} (h : ∀ s ∈ xs, (f s).bb = 0#64) :
    pushList f xs = [] := by
  unfold pushList
  rw [List.map_eq_nil_iff, List.filter_eq_nil_iff]
  exact fun s hs => by rw [h s hs]; simp

theorem mem_pushList {f : Sq → Entry} {xs : List Sq} {e : Entry} :
    e ∈ pushList f xs ↔ ∃ s ∈ xs, (f s).bb ≠ 0#64 ∧ e = f s := by
  unfold pushList
  simp only [List.mem_map, List.mem_filter, decide_eq_true_eq]
  exact ⟨fun ⟨s, ⟨h1, h2⟩, h3⟩ => ⟨s, h1, h2, h3.symm⟩, fun ⟨s, h1, h2, h3⟩ => ⟨s, ⟨h1, h2⟩, h3.symm⟩⟩

theorem mem_sqsOf_and {x y : BB} {s : Sq} :
    s ∈ sqsOf (x &&& y) ↔ x.getLsbD s.val = true ∧ y.getLsbD s.val = true := by
  rw [mem_sqsOf, BitVec.getLsbD_and, Bool.and_eq_true]

/-- the loop of `legals` over the unpinned men: `E s` is the entry of the man on `s` -/
theorem loop_unpinned (E fu : Sq → Entry) (x pinned : BB) (l : List Entry)
    (hu : ∀ s, pinned.getLsbD s.val = false → fu s = E s) :
    (sqsOf (x &&& ~~~pinned)).foldl (fun l s => pushIf l (fu s)) l =
      l ++ pushList E (sqsOf (x &&& ~~~pinned)) := by
  rw [foldl_pushIf, pushList_congr (g := E) fun s hs => hu s (by
    have := (mem_sqsOf_and.mp hs).2
    rw [BitVec.getLsbD_not, decide_eq_true s.isLt] at this
    simpa using this)]

/-- the two loops: the pinned men follow unless in check (`c` false); then `E s` has no destination
for a pinned man -/
theorem loops_eq (E fu fp : Sq → Entry) (x pinned : BB) (c : Bool) (l : List Entry)
    (hu : ∀ s, pinned.getLsbD s.val = false → fu s = E s)
    (hp : ∀ s, pinned.getLsbD s.val = true → if c then fp s = E s else (E s).bb = 0#64) :
    (if c then (sqsOf (x &&& pinned)).foldl (fun l s => pushIf l (fp s))
        ((sqsOf (x &&& ~~~pinned)).foldl (fun l s => pushIf l (fu s)) l)
      else (sqsOf (x &&& ~~~pinned)).foldl (fun l s => pushIf l (fu s)) l) =
    l ++ (pushList E (sqsOf (x &&& ~~~pinned)) ++ pushList E (sqsOf (x &&& pinned))) := by
  rw [loop_unpinned E fu x pinned l hu]
  cases c
  · rw [pushList_eq_nil (f := E) fun s hs => hp s (mem_sqsOf_and.mp hs).2, List.append_nil]
    rfl
  · rw [if_pos rfl, foldl_pushIf, pushList_congr (g := E) fun s hs => hp s (mem_sqsOf_and.mp hs).2,
      List.append_assoc]

/-! ### the destination sets, exactly as the code computes them -/

/-- `!board.color_combined(color)`: the mask `enumerate_moves` passes to every `legals` -/
def ownMask (b : Board) : BB := ~~~(b.colorCombined b.stm)

def own (b : Board) (p : Piece) : BB := b.pieces p &&& b.colorCombined b.stm

/-- destinations of the bishop / rook / queen (generic `legals`) standing on `src` -/
def destsGeneric (T : Tables) (b : Board) (p : Piece) (inCheck : Bool) (src : Sq) : BB :=
  if b.pinned.getLsbD src.val then
    (if inCheck then 0#64
     else pseudoLegals T p src b.stm b.combined (ownMask b) &&& T.line src (b.kingSquare b.stm))
  else pseudoLegals T p src b.stm b.combined (ownMask b) &&& checkMask T b inCheck

/-- destinations of the ordinary (non-en-passant) entry of the pawn on `src`; the pinned pawn uses
`line(ksq, src)` -/
def destsPawn (T : Tables) (b : Board) (inCheck : Bool) (src : Sq) : BB :=
  if b.pinned.getLsbD src.val then
    (if inCheck then 0#64
     else pseudoLegals T .pawn src b.stm b.combined (ownMask b) &&& T.line (b.kingSquare b.stm) src)
  else pseudoLegals T .pawn src b.stm b.combined (ownMask b) &&& checkMask T b inCheck

/-- destinations of the knight on `src`: nothing when pinned; in check the check mask joins the mask -/
def destsKnight (T : Tables) (b : Board) (inCheck : Bool) (src : Sq) : BB :=
  if b.pinned.getLsbD src.val then 0#64
  else if inCheck then
    pseudoLegals T .knight src b.stm b.combined
      (ownMask b &&& (T.between b.checkers.toSq (b.kingSquare b.stm) ^^^ b.checkers))
  else pseudoLegals T .knight src b.stm b.combined (ownMask b)

/-- the king steps that survive `legal_king_move`: the first loop of `KingType::legals` -/
def kingSteps (T : Tables) (b : Board) : BB :=
  let moves := pseudoLegals T .king (b.kingSquare b.stm) b.stm b.combined (ownMask b)
  moves.toList.foldl (fun mv dest =>
    if !legalKingMove T b dest then mv ^^^ BB.ofSq dest else mv) moves

/-- destinations of the king: the value `moves` that `KingType::legals` pushes -/
def destsKing (T : Tables) (b : Board) (inCheck : Bool) : BB :=
  let ksq := b.kingSquare b.stm
  let moves := kingSteps T b
  if !inCheck then
    let moves :=
      if b.myCastleRights.ks && (b.combined &&& T.ksCastle b.stm) == 0#64 then
        let middle := ksq.uright
        let right := middle.uright
        if legalKingMove T b middle && legalKingMove T b right then moves ^^^ BB.ofSq right else moves
      else moves
    if b.myCastleRights.qs && (b.combined &&& T.qsCastle b.stm) == 0#64 then
      let middle := ksq.uleft
      let left := middle.uleft
      if legalKingMove T b middle && legalKingMove T b left then moves ^^^ BB.ofSq left else moves
    else moves
  else moves

/-- the destination set of the man of kind `p` on `src` (for the king `src` is irrelevant) -/
def dests (T : Tables) (b : Board) (inCheck : Bool) (p : Piece) (src : Sq) : BB :=
  match p with
  | .pawn => destsPawn T b inCheck src
  | .knight => destsKnight T b inCheck src
  | .king => destsKing T b inCheck
  | p => destsGeneric T b p inCheck src

def promoFlag (b : Board) (p : Piece) (src : Sq) : Bool :=
  match p with
  | .pawn => decide (src.getRank = b.stm.seventhRank)
  | _ => false

def entryOf (T : Tables) (b : Board) (inCheck : Bool) (p : Piece) (src : Sq) : Entry :=
  ⟨src, dests T b inCheck p src, promoFlag b p src⟩

def epDest (b : Board) (epSq : Sq) : Sq := epSq.uforward b.stm

/-- the pawns that stand beside the en-passant pawn -/
def epSources (T : Tables) (b : Board) (epSq : Sq) : BB :=
  T.ranks epSq.getRank &&& T.adjFiles epSq.getFile &&& own b .pawn

def epEntry (b : Board) (epSq src : Sq) : Entry := ⟨src, BB.ofSq (epDest b epSq), false⟩

/-! ### the sections of the entry list -/

/-- the entries of the men of kind `p`: unpinned men first, then pinned men, each in square order -/
def secPiece (T : Tables) (b : Board) (inCheck : Bool) (p : Piece) : List Entry :=
  pushList (entryOf T b inCheck p) (sqsOf (own b p &&& ~~~b.pinned)) ++
  pushList (entryOf T b inCheck p) (sqsOf (own b p &&& b.pinned))

def secEp (T : Tables) (b : Board) : List Entry :=
  match b.ep with
  | none => []
  | some epSq =>
    ((sqsOf (epSources T b epSq)).filter fun src =>
      decide (legalEpMove T b src (epDest b epSq) = some true)).map (epEntry b epSq)

def secKing (T : Tables) (b : Board) (inCheck : Bool) : List Entry :=
  pushList (fun _ => ⟨b.kingSquare b.stm, destsKing T b inCheck, false⟩) [b.kingSquare b.stm]

/-- all sections when at most one man gives check -/
def secAll (T : Tables) (b : Board) (inCheck : Bool) : List Entry :=
  secPiece T b inCheck .pawn ++ secEp T b ++ secPiece T b inCheck .knight ++
  secPiece T b inCheck .bishop ++ secPiece T b inCheck .rook ++ secPiece T b inCheck .queen ++
  secKing T b inCheck

/-! ### each `legals` appends its section -/

theorem legalsGeneric_eq (T : Tables) (b : Board) (p : Piece)
    (hp : p = .bishop ∨ p = .rook ∨ p = .queen) (ic : Bool) (l : List Entry) :
    legalsGeneric T p ic l b (ownMask b) = l ++ secPiece T b ic p := by
  have hE : ∀ s, entryOf T b ic p s = ⟨s, destsGeneric T b p ic s, false⟩ := by
    intro s; rcases hp with h | h | h <;> subst h <;> rfl
  unfold legalsGeneric
  simp only [toList_eq_sqsOf]
  refine loops_eq (entryOf T b ic p) _ _ _ _ (!ic) l (fun s hs => ?_) (fun s hs => ?_)
  · rw [hE, destsGeneric, hs]; rfl
  · rw [hE, destsGeneric, hs]; cases ic <;> rfl

theorem legalsKnight_eq (T : Tables) (b : Board) (ic : Bool) (l : List Entry) :
    legalsKnight T ic l b (ownMask b) = l ++ secPiece T b ic .knight := by
  have hE : ∀ s, entryOf T b ic .knight s = ⟨s, destsKnight T b ic s, false⟩ := fun s => rfl
  unfold legalsKnight secPiece
  simp only [toList_eq_sqsOf]
  rw [pushList_eq_nil (f := entryOf T b ic .knight) (xs := sqsOf (_ &&& b.pinned)) fun s hs => by
    rw [hE, destsKnight, (mem_sqsOf_and.mp hs).2]; rfl, List.append_nil]
  cases ic <;> exact loop_unpinned _ _ _ _ l fun s hs => by rw [hE, destsKnight, hs]; rfl

theorem legalsKing_eq (T : Tables) (b : Board) (ic : Bool) (l : List Entry) :
    legalsKing T ic l b (ownMask b) = l ++ secKing T b ic :=
  foldl_pushIf (fun _ => ⟨b.kingSquare b.stm, destsKing T b ic, false⟩) [b.kingSquare b.stm] l

theorem legalsPawn_eq (T : Tables) (b : Board) (ic : Bool) (l : List Entry) :
    legalsPawn T ic l b (ownMask b) = l ++ secPiece T b ic .pawn ++ secEp T b := by
  have hE : ∀ s, entryOf T b ic .pawn s =
      ⟨s, destsPawn T b ic s, decide (s.getRank = b.stm.seventhRank)⟩ := fun s => rfl
  have hloops := loops_eq (entryOf T b ic .pawn)
    (fun src => ⟨src, pseudoLegals T .pawn src b.stm b.combined (ownMask b) &&& checkMask T b ic,
      src.getRank = b.stm.seventhRank⟩)
    (fun src => ⟨src, pseudoLegals T .pawn src b.stm b.combined (ownMask b) &&& T.line (b.kingSquare b.stm) src,
      src.getRank = b.stm.seventhRank⟩) (b.pawns &&& b.colorCombined b.stm) b.pinned (!ic) l
    (fun s hs => by rw [hE, destsPawn, hs]; rfl) (fun s hs => by rw [hE, destsPawn, hs]; cases ic <;> rfl)
  unfold legalsPawn secEp
  simp only [toList_eq_sqsOf, hloops]
  cases b.ep with
  | none => exact (List.append_nil _).symm
  | some epSq =>
    simp only [foldl_cond_append]
    rfl

/-- **the entry list**, section by section, in the three check regimes -/
theorem enumerate_eq (T : Tables) (b : Board) :
    enumerate T b =
      if b.checkers = 0#64 then secAll T b false
      else if b.checkers.popcnt = 1 then secAll T b true
      else secKing T b true := by
  have hall : ∀ ic, legalsKing T ic (legalsGeneric T .queen ic (legalsGeneric T .rook ic
      (legalsGeneric T .bishop ic (legalsKnight T ic (legalsPawn T ic [] b (ownMask b)) b (ownMask b))
        b (ownMask b)) b (ownMask b)) b (ownMask b)) b (ownMask b) = secAll T b ic := by
    intro ic
    rw [legalsPawn_eq, legalsKnight_eq, legalsGeneric_eq T b .bishop (Or.inl rfl),
      legalsGeneric_eq T b .rook (Or.inr (Or.inl rfl)), legalsGeneric_eq T b .queen (Or.inr (Or.inr rfl)),
      legalsKing_eq, List.nil_append]
    rfl
  unfold enumerate
  simp only [← show ownMask b = ~~~b.colorCombined b.stm from rfl, hall, legalsKing_eq, List.nil_append]

/-! ### membership in the entry list -/

theorem mem_secPiece {T : Tables} {b : Board} {ic : Bool} {p : Piece} {e : Entry} :
    e ∈ secPiece T b ic p ↔ ∃ src : Sq, (own b p).getLsbD src.val = true ∧
      dests T b ic p src ≠ 0#64 ∧ e = entryOf T b ic p src := by
  unfold secPiece
  rw [List.mem_append, mem_pushList, mem_pushList]
  simp only [mem_sqsOf, BitVec.getLsbD_and, BitVec.getLsbD_not, Bool.and_eq_true]
  constructor
  · rintro (⟨s, ⟨h1, _⟩, h2, h3⟩ | ⟨s, ⟨h1, _⟩, h2, h3⟩) <;> exact ⟨s, h1, h2, h3⟩
  · rintro ⟨s, h1, h2, h3⟩
    cases hp : b.pinned.getLsbD s.val with
    | false => exact Or.inl ⟨s, ⟨h1, by rw [hp, decide_eq_true s.isLt]; exact ⟨rfl, rfl⟩⟩, h2, h3⟩
    | true => exact Or.inr ⟨s, ⟨h1, hp⟩, h2, h3⟩

theorem mem_secEp {T : Tables} {b : Board} {e : Entry} :
    e ∈ secEp T b ↔ ∃ epSq src : Sq, b.ep = some epSq ∧ (epSources T b epSq).getLsbD src.val = true ∧
      legalEpMove T b src (epDest b epSq) = some true ∧ e = epEntry b epSq src := by
  unfold secEp
  cases hep : b.ep with
  | none => exact ⟨nofun, fun ⟨_, _, h, _⟩ => nomatch h⟩
  | some epSq =>
    simp only [List.mem_map, List.mem_filter, mem_sqsOf, decide_eq_true_eq, Option.some.injEq]
    exact ⟨fun ⟨s, ⟨h1, h2⟩, h3⟩ => ⟨epSq, s, rfl, h1, h2, h3.symm⟩,
      fun ⟨q, s, hq, h1, h2, h3⟩ => hq ▸ ⟨s, ⟨h1, h2⟩, h3.symm⟩⟩

theorem mem_secKing {T : Tables} {b : Board} {ic : Bool} {e : Entry} :
    e ∈ secKing T b ic ↔ destsKing T b ic ≠ 0#64 ∧ e = ⟨b.kingSquare b.stm, destsKing T b ic, false⟩ := by
  unfold secKing
  rw [mem_pushList]
  simp

/-- `e` is one of the entries pushed when at most one man gives check (`inCheck` = exactly one) -/
def IsEntry (T : Tables) (b : Board) (inCheck : Bool) (e : Entry) : Prop :=
  (∃ (p : Piece) (src : Sq), p ≠ .king ∧ (own b p).getLsbD src.val = true ∧
    dests T b inCheck p src ≠ 0#64 ∧ e = entryOf T b inCheck p src) ∨
  (∃ epSq src : Sq, b.ep = some epSq ∧ (epSources T b epSq).getLsbD src.val = true ∧
    legalEpMove T b src (epDest b epSq) = some true ∧ e = epEntry b epSq src) ∨
  (destsKing T b inCheck ≠ 0#64 ∧ e = ⟨b.kingSquare b.stm, destsKing T b inCheck, false⟩)

/-- the entries whose source carries a man of kind `p` -/
def secOf (T : Tables) (b : Board) (ic : Bool) : Piece → List Entry
  | .pawn => secPiece T b ic .pawn ++ secEp T b
  | .king => secKing T b ic
  | p => secPiece T b ic p

theorem secAll_eq (T : Tables) (b : Board) (ic : Bool) : secAll T b ic = allPieces.flatMap (secOf T b ic) := by
  simp only [secAll, allPieces, secOf, List.flatMap_cons, List.flatMap_nil, List.append_nil, List.append_assoc]

theorem mem_secAll {T : Tables} {b : Board} {ic : Bool} {e : Entry} :
    e ∈ secAll T b ic ↔ IsEntry T b ic e := by
  rw [secAll_eq, List.mem_flatMap]
  have hpc : ∀ p, p ≠ Piece.king → e ∈ secPiece T b ic p → IsEntry T b ic e :=
    fun p hp h => let ⟨s, hs⟩ := mem_secPiece.mp h; .inl ⟨p, s, hp, hs⟩
  constructor
  · rintro ⟨p, -, h⟩
    cases p with
    | pawn => exact (List.mem_append.mp h).elim (hpc _ (by decide)) fun h => .inr (.inl (mem_secEp.mp h))
    | king => exact .inr (.inr (mem_secKing.mp h))
    | _ => exact hpc _ (by decide) h
  · rintro (⟨p, s, hp, h⟩ | h | h)
    · refine ⟨p, by cases p <;> decide, ?_⟩
      have := mem_secPiece.mpr ⟨s, h⟩
      cases p with
      | pawn => exact List.mem_append_left _ this
      | king => exact absurd rfl hp
      | _ => exact this
    · exact ⟨.pawn, by decide, List.mem_append_right _ (mem_secEp.mpr h)⟩
    · exact ⟨.king, by decide, mem_secKing.mpr h⟩

/-- **membership in the entry list** in the three check regimes -/
theorem mem_enumerate_iff (T : Tables) (b : Board) (e : Entry) :
    e ∈ enumerate T b ↔
      if b.checkers = 0#64 then IsEntry T b false e
      else if b.checkers.popcnt = 1 then IsEntry T b true e
      else destsKing T b true ≠ 0#64 ∧ e = ⟨b.kingSquare b.stm, destsKing T b true, false⟩ := by
  rw [enumerate_eq]
  by_cases h0 : b.checkers = 0#64
  · rw [if_pos h0, if_pos h0]
    exact mem_secAll
  · rw [if_neg h0, if_neg h0]
    by_cases h1 : b.checkers.popcnt = 1
    · rw [if_pos h1, if_pos h1]
      exact mem_secAll
    · rw [if_neg h1, if_neg h1]
      exact mem_secKing

/-! ### a fresh generator -/

theorem isEntry_nonempty {T : Tables} {b : Board} {ic : Bool} {e : Entry} (h : IsEntry T b ic e) :
    e.bb ≠ 0#64 := by
  rcases h with ⟨p, s, _, _, h, rfl⟩ | ⟨q, s, _, _, _, rfl⟩ | ⟨h, rfl⟩
  · exact h
  · exact BB.ofSq_ne_zero _
  · exact h

theorem enumerate_nonempty (T : Tables) (b : Board) : ∀ e ∈ enumerate T b, e.bb ≠ 0#64 := by
  intro e he
  rw [enumerate_eq] at he
  have hall : ∀ ic, e ∈ secAll T b ic → e.bb ≠ 0#64 := fun ic h => isEntry_nonempty (mem_secAll.mp h)
  by_cases h0 : b.checkers = 0#64
  · exact hall _ (if_pos h0 ▸ he)
  · rw [if_neg h0] at he
    by_cases h1 : b.checkers.popcnt = 1
    · exact hall _ (if_pos h1 ▸ he)
    · obtain ⟨h, rfl⟩ := mem_secKing.mp (if_neg h1 ▸ he)
      exact h

theorem inv_newLegal (T : Tables) (b : Board) : Inv (newLegal T b) :=
  inv_fresh _ (enumerate_nonempty T b)

/-- a fresh generator yields every move of every entry exactly once, in entry order -/
theorem legalMoves_eq (T : Tables) (b : Board) : Board.legalMoves T b = allMoves (enumerate T b) :=
  ((drain_exact _ (inv_newLegal T b)).yields).trans (under_eq_allUnder _ (inv_newLegal T b) rfl)

theorem len_newLegal (T : Tables) (b : Board) : len (newLegal T b) = (Board.legalMoves T b).length := by
  rw [legalMoves_eq, len_exact _ (inv_newLegal T b), under_eq_allUnder _ (inv_newLegal T b) rfl]
  rfl

/-- `Board::status` reads `len()` of a fresh generator: it is decided by the generated moves and the
cached checkers -/
theorem status_eq (T : Tables) (b : Board) :
    b.status T = if b.legalMoves T = [] then (if b.checkers = 0#64 then .stalemate else .checkmate)
      else .ongoing := by
  unfold Board.status
  simp only [len_newLegal, List.length_eq_zero_iff]

/-! ### membership in the move list -/

def PromoShape (promo : Bool) (m : Move) : Prop :=
  if promo then ∃ q ∈ promotionPieces, m.promo = some q else m.promo = none

theorem getLsbD_allOnes (i : Nat) (hi : i < 64) : (~~~0#64 : BB).getLsbD i = true := by
  rw [BitVec.getLsbD_not, decide_eq_true hi, BitVec.getLsbD_zero]
  rfl

theorem mem_allMoves {l : List Entry} {m : Move} :
    m ∈ allMoves l ↔ ∃ e ∈ l, e.sq = m.src ∧ e.bb.getLsbD m.dst.val = true ∧
      (if e.promo then ∃ q ∈ promotionPieces, m.promo = some q else m.promo = none) := by
  rw [allMoves, mem_allUnder]
  exact exists_congr fun e => and_congr_right fun _ => and_congr_right fun _ => and_congr_right fun _ =>
    and_iff_right (getLsbD_allOnes _ m.dst.isLt)

theorem mem_legalMoves_iff (T : Tables) (b : Board) (m : Move) :
    m ∈ b.legalMoves T ↔ ∃ e ∈ enumerate T b, e.sq = m.src ∧ e.bb.getLsbD m.dst.val = true ∧
      (if e.promo then ∃ q ∈ promotionPieces, m.promo = some q else m.promo = none) := by
  rw [legalMoves_eq]
  exact mem_allMoves

/-- `m` is one of the moves generated when at most one man gives check -/
def IsMove (T : Tables) (b : Board) (inCheck : Bool) (m : Move) : Prop :=
  (∃ p : Piece, p ≠ .king ∧ (own b p).getLsbD m.src.val = true ∧
    (dests T b inCheck p m.src).getLsbD m.dst.val = true ∧ PromoShape (promoFlag b p m.src) m) ∨
  (∃ epSq : Sq, b.ep = some epSq ∧ (epSources T b epSq).getLsbD m.src.val = true ∧
    legalEpMove T b m.src (epDest b epSq) = some true ∧ m.dst = epDest b epSq ∧ m.promo = none) ∨
  (m.src = b.kingSquare b.stm ∧ (destsKing T b inCheck).getLsbD m.dst.val = true ∧ m.promo = none)

theorem mem_allMoves_secAll (T : Tables) (b : Board) (ic : Bool) (m : Move) :
    m ∈ allMoves (secAll T b ic) ↔ IsMove T b ic m := by
  rw [mem_allMoves]
  constructor
  · rintro ⟨e, he, hs, hd, hpr⟩
    rcases mem_secAll.mp he with ⟨p, s, hp, h1, _, rfl⟩ | ⟨q, s, hq, h1, h2, rfl⟩ | ⟨_, rfl⟩
    · obtain rfl : s = m.src := hs
      exact .inl ⟨p, hp, h1, hd, hpr⟩
    · obtain rfl : s = m.src := hs
      exact .inr (.inl ⟨q, hq, h1, h2, of_decide_eq_true ((BB.getLsbD_ofSq_val _ _).symm.trans hd), hpr⟩)
    · exact .inr (.inr ⟨hs.symm, hd, hpr⟩)
  · rintro (⟨p, hp, h1, hd, hpr⟩ | ⟨q, hq, h1, h2, hd, hpr⟩ | ⟨hs, hd, hpr⟩)
    · exact ⟨entryOf T b ic p m.src, mem_secAll.mpr (.inl ⟨p, m.src, hp, h1, BB.ne_zero_of_getLsbD _ _ hd, rfl⟩),
        rfl, hd, hpr⟩
    · exact ⟨epEntry b q m.src, mem_secAll.mpr (.inr (.inl ⟨q, m.src, hq, h1, h2, rfl⟩)), rfl,
        (BB.getLsbD_ofSq_val _ _).trans (decide_eq_true hd), hpr⟩
    · exact ⟨⟨b.kingSquare b.stm, destsKing T b ic, false⟩,
        mem_secAll.mpr (.inr (.inr ⟨BB.ne_zero_of_getLsbD _ _ hd, rfl⟩)), hs.symm, hd, hpr⟩

/-- **membership in the generated move list**, by the kind of man on the source square -/
theorem mem_legalMoves_cases (T : Tables) (b : Board) (m : Move) :
    m ∈ b.legalMoves T ↔
      if b.checkers = 0#64 then IsMove T b false m
      else if b.checkers.popcnt = 1 then IsMove T b true m
      else m.src = b.kingSquare b.stm ∧ (destsKing T b true).getLsbD m.dst.val = true ∧ m.promo = none := by
  rw [legalMoves_eq, enumerate_eq]
  by_cases h0 : b.checkers = 0#64
  · rw [if_pos h0, if_pos h0]
    exact mem_allMoves_secAll T b false m
  · rw [if_neg h0, if_neg h0]
    by_cases h1 : b.checkers.popcnt = 1
    · rw [if_pos h1, if_pos h1]
      exact mem_allMoves_secAll T b true m
    · rw [if_neg h1, if_neg h1, mem_allMoves]
      exact ⟨fun ⟨e, he, hs, hd, hpr⟩ => by obtain ⟨_, rfl⟩ := mem_secKing.mp he; exact ⟨hs.symm, hd, hpr⟩,
        fun ⟨hs, hd, hpr⟩ => ⟨_, mem_secKing.mpr ⟨BB.ne_zero_of_getLsbD _ _ hd, rfl⟩, hs.symm, hd, hpr⟩⟩

theorem own_disj {b : Board} (hs : Struct b) {p q : Piece} (hne : p ≠ q) (i : Nat)
    (hp : (own b p).getLsbD i = true) (hq : (own b q).getLsbD i = true) : False := by
  unfold own at hp hq
  rw [BitVec.getLsbD_and, Bool.and_eq_true] at hp hq
  have := hs.piece_disj i p q hne hp.1
  rw [Board.pbit, hq.1] at this
  cases this

theorem kind_unique {b : Board} (hs : Struct b) {p q : Piece} {s : Sq}
    (hp : (own b p).getLsbD s.val = true) (hq : (own b q).getLsbD s.val = true) : p = q :=
  Classical.byContradiction fun hne => own_disj hs hne s.val hp hq

/-! ### no move is generated twice -/

theorem expand_nodup (promo : Bool) (src d : Sq) : (expand promo src d).Nodup := by
  cases promo
  · exact List.pairwise_singleton _ _
  · exact List.pairwise_map.mpr ((by decide : promotionPieces.Nodup).imp fun hne h =>
      hne (Option.some.inj (by injection h)))

/-- lists that remember where they come from (`key b = a` for `b ∈ f a`) do not overlap -/
theorem nodup_flatMap_of_key {α β : Type} {l : List α} {f : α → List β} (key : β → α) (hl : l.Nodup)
    (hf : ∀ a ∈ l, (f a).Nodup) (hk : ∀ a, ∀ b ∈ f a, key b = a) : (l.flatMap f).Nodup := by
  unfold List.Nodup
  rw [List.pairwise_flatMap]
  refine ⟨hf, List.Pairwise.imp ?_ hl⟩
  intro a a' hne x hx y hy hxy
  exact hne ((hk a x hx).symm.trans (hxy ▸ hk a' y hy))

theorem movesUnder_nodup (e : Entry) (mask : BB) : (movesUnder e mask).Nodup :=
  nodup_flatMap_of_key (·.dst) (sqsOf_nodup _) (fun d _ => expand_nodup _ _ d)
    fun _ _ hx => (mem_expand.mp hx).2.1

/-- two entries never yield the same move: different sources, or no common destination -/
def Apart (a c : Entry) : Prop :=
  a.sq = c.sq → ∀ d : Nat, a.bb.getLsbD d = true → c.bb.getLsbD d = true → False

theorem allUnder_nodup {l : List Entry} (h : l.Pairwise Apart) (mask : BB) : (allUnder l mask).Nodup := by
  unfold allUnder List.Nodup
  rw [List.pairwise_flatMap]
  refine ⟨fun e _ => movesUnder_nodup e mask, h.imp ?_⟩
  intro a c hac x hx y hy hxy
  obtain ⟨hx1, hx2, _⟩ := mem_movesUnder.mp hx
  obtain ⟨hy1, hy2, _⟩ := mem_movesUnder.mp hy
  rw [BitVec.getLsbD_and, Bool.and_eq_true] at hx2 hy2
  subst hxy
  exact hac (hx1.symm.trans hy1) x.dst.val hx2.1 hy2.1

theorem apart_of_nodup_sq {l : List Entry} (h : (l.map (·.sq)).Nodup) : l.Pairwise Apart :=
  (List.pairwise_map.mp h).imp fun hne heq => absurd heq hne

theorem map_sq_pushList {f : Sq → Entry} {xs : List Sq} (h : ∀ s ∈ xs, (f s).sq = s) :
    (pushList f xs).map (·.sq) = xs.filter fun s => decide ((f s).bb ≠ 0#64) := by
  unfold pushList
  rw [List.map_map]
  exact (List.map_congr_left fun s hs => h s (List.mem_filter.mp hs).1).trans (List.map_id _)

theorem secPiece_apart (T : Tables) (b : Board) (ic : Bool) (p : Piece) :
    (secPiece T b ic p).Pairwise Apart := by
  apply apart_of_nodup_sq
  unfold secPiece
  rw [List.map_append, map_sq_pushList (fun _ _ => rfl), map_sq_pushList (fun _ _ => rfl), ← List.filter_append]
  refine List.Nodup.sublist List.filter_sublist
    (List.nodup_append.mpr ⟨sqsOf_nodup _, sqsOf_nodup _, fun s hs t ht hst => ?_⟩)
  rw [mem_sqsOf, BitVec.getLsbD_and, Bool.and_eq_true] at hs ht
  subst hst
  have h2 := hs.2
  rw [BitVec.getLsbD_not, ht.2] at h2
  simp at h2

theorem secEp_apart (T : Tables) (b : Board) : (secEp T b).Pairwise Apart := by
  apply apart_of_nodup_sq
  unfold secEp
  cases b.ep with
  | none => exact List.nodup_nil
  | some q =>
    have : ((fun x : Entry => x.sq) ∘ epEntry b q) = id := rfl
    rw [List.map_map, this, List.map_id]
    exact (sqsOf_nodup _).sublist List.filter_sublist

theorem secKing_apart (T : Tables) (b : Board) (ic : Bool) : (secKing T b ic).Pairwise Apart :=
  apart_of_nodup_sq (by
    unfold secKing
    rw [map_sq_pushList (fun s hs => (List.mem_singleton.mp hs).symm)]
    exact (List.pairwise_singleton _ _).sublist List.filter_sublist)

/-- the en-passant destination is not among the ordinary destinations of the capturing pawn
(it holds by geometry, an empty square on an adjacent file: `Props.C01S_noEpClash_of_pseudo`) -/
def NoEpClash (T : Tables) (b : Board) (inCheck : Bool) : Prop :=
  ∀ epSq src : Sq, b.ep = some epSq → (epSources T b epSq).getLsbD src.val = true →
    legalEpMove T b src (epDest b epSq) = some true →
    (destsPawn T b inCheck src).getLsbD (epDest b epSq).val = false

theorem pawnEp_apart (T : Tables) (b : Board) (ic : Bool) (hep : NoEpClash T b ic) :
    (secPiece T b ic .pawn ++ secEp T b).Pairwise Apart := by
  rw [List.pairwise_append]
  refine ⟨secPiece_apart T b ic .pawn, secEp_apart T b, ?_⟩
  intro a ha c hc heq d hda hdc
  obtain ⟨s, _, _, rfl⟩ := mem_secPiece.mp ha
  obtain ⟨q, s', hq, h1', h2', rfl⟩ := mem_secEp.mp hc
  obtain rfl : s = s' := heq
  have hd : (BB.ofSq (epDest b q)).getLsbD d = true := hdc
  rw [BB.getLsbD_ofSq, decide_eq_true_eq] at hd
  subst hd
  exact Bool.false_ne_true ((hep q s hq h1' h2').symm.trans hda)

def SrcIn (S : BB) (X : List Entry) : Prop := ∀ e ∈ X, S.getLsbD e.sq.val = true

theorem secOf_srcIn (T : Tables) (b : Board) (ic : Bool) (hk : own b .king ≠ 0#64) (p : Piece) :
    SrcIn (own b p) (secOf T b ic p) := by
  have hpc : ∀ p, SrcIn (own b p) (secPiece T b ic p) := fun p e he => by
    obtain ⟨s, h1, _, rfl⟩ := mem_secPiece.mp he
    exact h1
  cases p with
  | pawn =>
    intro e he
    refine (List.mem_append.mp he).elim (hpc _ e) fun he => ?_
    obtain ⟨q, s, _, h1, _, rfl⟩ := mem_secEp.mp he
    unfold epSources at h1
    rw [BitVec.getLsbD_and, Bool.and_eq_true] at h1
    exact h1.2
  | king =>
    intro e he
    obtain ⟨_, rfl⟩ := mem_secKing.mp he
    exact BB.getLsbD_toSq _ hk
  | _ => exact hpc _

theorem secAll_apart (T : Tables) (b : Board) (ic : Bool) (hs : Struct b) (hk : own b .king ≠ 0#64)
    (hep : NoEpClash T b ic) : (secAll T b ic).Pairwise Apart := by
  rw [secAll_eq, List.pairwise_flatMap]
  constructor
  · intro p _
    cases p with
    | pawn => exact pawnEp_apart T b ic hep
    | king => exact secKing_apart T b ic
    | _ => exact secPiece_apart T b ic _
  · refine List.Pairwise.imp ?_ (by decide : allPieces.Nodup)
    intro p q hne x hx y hy heq _ _ _
    exact own_disj hs hne x.sq.val (secOf_srcIn T b ic hk _ x hx) (heq ▸ secOf_srcIn T b ic hk _ y hy)

theorem enumerate_apart (T : Tables) (b : Board) (hs : Struct b) (hk : own b .king ≠ 0#64)
    (hep : NoEpClash T b (decide (b.checkers ≠ 0#64))) : (enumerate T b).Pairwise Apart := by
  rw [enumerate_eq]
  by_cases h0 : b.checkers = 0#64
  · rw [if_pos h0]
    rw [decide_eq_false (not_not_intro h0)] at hep
    exact secAll_apart T b false hs hk hep
  · rw [if_neg h0]
    rw [decide_eq_true h0] at hep
    by_cases h1 : b.checkers.popcnt = 1
    · rw [if_pos h1]
      exact secAll_apart T b true hs hk hep
    · rw [if_neg h1]
      exact secKing_apart T b true

theorem legalMoves_nodup (T : Tables) (b : Board) (hs : Struct b) (hk : own b .king ≠ 0#64)
    (hep : NoEpClash T b (decide (b.checkers ≠ 0#64))) : (b.legalMoves T).Nodup := by
  rw [legalMoves_eq]
  exact allUnder_nodup (enumerate_apart T b hs hk hep) _

/-- a sufficient form of the en-passant hypothesis, independent of the check regime: the destination
is not a pseudo-legal destination of the capturing pawn -/
theorem noEpClash_of_pseudo (T : Tables) (b : Board)
    (h : ∀ epSq src : Sq, b.ep = some epSq → (epSources T b epSq).getLsbD src.val = true →
      (pseudoLegals T .pawn src b.stm b.combined (ownMask b)).getLsbD (epDest b epSq).val = false)
    (ic : Bool) : NoEpClash T b ic := by
  intro q s hq h1 _
  have := h q s hq h1
  unfold destsPawn
  split
  · split
    · exact BitVec.getLsbD_zero
    · rw [BitVec.getLsbD_and, this]; rfl
  · rw [BitVec.getLsbD_and, this]; rfl

/-! ### `Board::legal` and the generator -/

theorem legal_query_iff (T : Tables) (b : Board) (m : Move) : b.legal T m = true ↔ m ∈ b.legalMoves T :=
  List.contains_iff_mem

/-- the promotion fields a `ChessMove` can carry: none, or any of the six piece kinds -/
def allPromos : List (Option Piece) := none :: allPieces.map some

/-- every value of `ChessMove`: 64 sources × 64 destinations × (1 + 6) promotion fields -/
def allMoveValues : List Move :=
  allSq.flatMap fun s => allSq.flatMap fun d => allPromos.map fun p => (⟨s, d, p⟩ : Move)

theorem mem_allPromos : ∀ p : Option Piece, p ∈ allPromos
  | none => by decide
  | some p => by cases p <;> decide

theorem mem_allMoveValues (m : Move) : m ∈ allMoveValues := by
  unfold allMoveValues
  simp only [List.mem_flatMap, List.mem_map]
  exact ⟨m.src, List.mem_finRange _, m.dst, List.mem_finRange _, m.promo, mem_allPromos _, rfl⟩

theorem allMoveValues_nodup : allMoveValues.Nodup := by
  unfold allMoveValues
  refine nodup_flatMap_of_key (·.src) (List.nodup_finRange 64) (fun s _ =>
    nodup_flatMap_of_key (·.dst) (List.nodup_finRange 64) (fun d _ => ?_) fun d x hx => ?_) fun s x hx => ?_
  · exact List.pairwise_map.mpr ((by decide : allPromos.Nodup).imp fun hne heq => hne (by injection heq))
  · obtain ⟨_, _, rfl⟩ := List.mem_map.mp hx
    rfl
  · simp only [List.mem_flatMap, List.mem_map] at hx
    obtain ⟨_, _, _, _, rfl⟩ := hx
    rfl

theorem allMoveValues_length : allMoveValues.length = 64 * 64 * 7 := by
  unfold allMoveValues
  rw [length_flatMap_const fun s => length_flatMap_const (fun d => List.length_map _) allSq]
  rfl

/-- `Board::legal` and the generator agree on every one of the 64×64×7 move values: filtering all
move values by `Board::legal` selects exactly the generated moves -/
theorem mem_filter_legal_iff (T : Tables) (b : Board) (m : Move) :
    m ∈ allMoveValues.filter (fun m => b.legal T m) ↔ m ∈ b.legalMoves T := by
  rw [List.mem_filter, legal_query_iff]
  exact and_iff_right (mem_allMoveValues m)

/-- … and, when no move is generated twice, as multisets -/
theorem filter_legal_perm (T : Tables) (b : Board) (h : (b.legalMoves T).Nodup) :
    (allMoveValues.filter fun m => b.legal T m).Perm (b.legalMoves T) :=
  (List.perm_ext_iff_of_nodup (allMoveValues_nodup.sublist List.filter_sublist) h).mpr
    (mem_filter_legal_iff T b)

theorem foldl_xor_bits (c : Sq → Bool) (xs : List Sq) (hx : xs.Nodup) (acc : BB) (i : Nat) :
    (xs.foldl (fun mv d => if c d then mv ^^^ BB.ofSq d else mv) acc).getLsbD i =
      (acc.getLsbD i ^^ xs.any fun d => c d && decide (i = d.val)) := by
  induction xs generalizing acc with
  | nil => exact (Bool.xor_false _).symm
  | cons a as ih =>
    obtain ⟨hna, has⟩ := List.nodup_cons.mp hx
    rw [List.foldl_cons, ih has, List.any_cons]
    cases hc : c a
    · rfl
    · -- the square `a` does not occur again
      have hrest : i = a.val → (as.any fun d => c d && decide (i = d.val)) = false := fun hi =>
        List.any_eq_false.mpr fun d hd h => by
          rw [Bool.and_eq_true, decide_eq_true_eq] at h
          exact hna (Fin.ext (hi.symm.trans h.2) ▸ hd)
      rw [if_pos rfl, BitVec.getLsbD_xor, BB.getLsbD_ofSq, Bool.true_and]
      by_cases hi : i = a.val
      · rw [hrest hi, decide_eq_true hi, Bool.xor_false, Bool.or_false]
      · rw [decide_eq_false hi, Bool.xor_false, Bool.false_or]

/-- a king step survives the first loop of `KingType::legals` iff it is a king-table step onto a
square not occupied by an own man and `legal_king_move` accepts it -/
theorem kingSteps_getLsbD (T : Tables) (b : Board) (s : Sq) :
    (kingSteps T b).getLsbD s.val =
      ((T.king (b.kingSquare b.stm) &&& ownMask b).getLsbD s.val && legalKingMove T b s) := by
  unfold kingSteps
  simp only [toList_eq_sqsOf]
  rw [foldl_xor_bits (fun d => !legalKingMove T b d) _ (sqsOf_nodup _)]
  show ((T.king (b.kingSquare b.stm) &&& ownMask b).getLsbD s.val ^^
    (sqsOf (T.king (b.kingSquare b.stm) &&& ownMask b)).any fun d =>
      !legalKingMove T b d && decide (s.val = d.val)) = _
  have hany : ((sqsOf (T.king (b.kingSquare b.stm) &&& ownMask b)).any
      fun d => !legalKingMove T b d && decide (s.val = d.val)) =
      ((T.king (b.kingSquare b.stm) &&& ownMask b).getLsbD s.val && !legalKingMove T b s) := by
    rw [Bool.eq_iff_iff, List.any_eq_true, Bool.and_eq_true]
    constructor
    · rintro ⟨d, hd, h⟩
      rw [Bool.and_eq_true, decide_eq_true_eq] at h
      obtain rfl : s = d := Fin.ext h.2
      exact ⟨(mem_sqsOf _ _).mp hd, h.1⟩
    · exact fun h => ⟨s, (mem_sqsOf _ _).mpr h.1, by rw [h.2, decide_eq_true rfl]; rfl⟩
  rw [hany]
  cases (T.king (b.kingSquare b.stm) &&& ownMask b).getLsbD s.val <;> cases legalKingMove T b s <;> rfl

end Entries
end Chess
