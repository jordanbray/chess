import ChessVerif.Lemmas.Closure
/-!
# Board symmetries of the FIDE specification (lemmas for C17)

A symmetry `T : Sym` is a pair of switches: `fr` = flip the ranks *and* swap the colours, `ff` = flip
the files.  `T.sq`, `T.col`, `T.dir`, `T.mv`, `T.pos` are the induced maps on squares, colours, ray
directions, moves and positions; `Sym.mirror = ⟨true,false⟩` and `Sym.flip = ⟨false,true⟩` are
`Sq.mirror / Pos.mirror` and `Sq.flipFile / Pos.flipFiles` of `Spec/Rules.lean` (`mirror_pos`,
`flip_pos`, ... at the end of the file).  Every notion of the specification is shown to commute with
every `T` — once, for all four symmetries — under two side conditions that are stated where needed:

* `T.Ok p`: if `T` flips the files then `p` has no castling rights (`NoCastle p`); castling is the
  only left/right-asymmetric rule;
* `UniqueKing p c`: at most one king of colour `c`.  `kingSq?` takes the *first* king in a1..h8 order,
  so with two kings of one colour `inCheck` (and everything built on it) is not mirror-invariant.

On coordinates a symmetry acts by `flipIf` (`x ↦ 7 - x` or the identity), on coordinate differences and
on the pawns' direction by `negIf`; the rules are written in these terms, so that most proofs below unfold
a definition and rewrite with the few laws of `flipIf` and `negIf`.
-/
namespace Chess
open Closure
open PinCheck (movedMan)
open PseudoBits (pawnStd epClause promoShape)
open EnPassant (predPos)

theorem beq_congr {α β} [BEq α] [LawfulBEq α] [BEq β] [LawfulBEq β] {a b : α} {c d : β}
    (h : a = b ↔ c = d) : (a == b) = (c == d) := by
  rw [Bool.eq_iff_iff]; simp only [beq_iff_eq]; exact h
theorem bne_congr {α β} [BEq α] [LawfulBEq α] [BEq β] [LawfulBEq β] {a b : α} {c d : β}
    (h : a = b ↔ c = d) : (a != b) = (c != d) := by
  unfold bne; rw [beq_congr h]
theorem decide_congr {P Q : Prop} [Decidable P] [Decidable Q] (h : P ↔ Q) : decide P = decide Q := by
  simp [h]

theorem sq?_self (s : Sq) : sq? s.file s.rank = some s := Closure.sq?_self s

theorem any_invol {α} {l : List α} {g : α → α} (hg : ∀ a, g (g a) = a) (hl : ∀ a ∈ l, g a ∈ l) (f : α → Bool) :
    (l.any fun a => f (g a)) = l.any f := by
  rw [Bool.eq_iff_iff, List.any_eq_true, List.any_eq_true]
  exact ⟨fun ⟨a, ha, h⟩ => ⟨g a, hl a ha, h⟩, fun ⟨a, ha, h⟩ => ⟨g a, hl a ha, (hg a).symm ▸ h⟩⟩
theorem all_invol {α} {l : List α} {g : α → α} (hg : ∀ a, g (g a) = a) (hl : ∀ a ∈ l, g a ∈ l) (f : α → Bool) :
    (l.all fun a => f (g a)) = l.all f := by
  rw [List.all_eq_not_any_not, List.all_eq_not_any_not, any_invol hg hl fun a => !f a]

/-! ## coordinates -/

def flipIf (b : Bool) (x : Int) : Int := if b then 7 - x else x
def negIf (b : Bool) (x : Int) : Int := if b then -x else x

theorem flipIf_sub (b : Bool) (x y : Int) : flipIf b y - flipIf b x = negIf b (y - x) := by
  cases b <;> simp only [flipIf, negIf, if_true, if_false, Bool.false_eq_true] <;> omega
theorem flipIf_add_negIf (b : Bool) (x d : Int) : flipIf b x + negIf b d = flipIf b (x + d) := by
  cases b <;> simp only [flipIf, negIf, if_true, if_false, Bool.false_eq_true] <;> omega
theorem flipIf_sub_negIf (b : Bool) (x d : Int) : flipIf b x - negIf b d = flipIf b (x - d) := by
  cases b <;> simp only [flipIf, negIf, if_true, if_false, Bool.false_eq_true] <;> omega
theorem mul_negIf (b : Bool) (k x : Int) : k * negIf b x = negIf b (k * x) := by
  cases b <;> simp only [negIf, if_true, if_false, Bool.false_eq_true, Int.mul_neg]
theorem natAbs_negIf (b : Bool) (x : Int) : (negIf b x).natAbs = x.natAbs := by
  cases b <;> simp only [negIf, if_true, if_false, Bool.false_eq_true, Int.natAbs_neg]
theorem flipIf_inj (b : Bool) {x y : Int} : flipIf b x = flipIf b y ↔ x = y := by
  cases b <;> simp only [flipIf, if_true, if_false, Bool.false_eq_true] <;> omega
theorem negIf_inj (b : Bool) {x y : Int} : negIf b x = negIf b y ↔ x = y := by
  cases b <;> simp only [negIf, if_true, if_false, Bool.false_eq_true] <;> omega
theorem flipIf_beq (b : Bool) (x y : Int) : (flipIf b x == flipIf b y) = (x == y) := beq_congr (flipIf_inj b)
theorem flipIf_bne (b : Bool) (x y : Int) : (flipIf b x != flipIf b y) = (x != y) := bne_congr (flipIf_inj b)
theorem negIf_beq (b : Bool) (x y : Int) : (negIf b x == negIf b y) = (x == y) := beq_congr (negIf_inj b)
theorem negIf_beq_zero (b : Bool) (x : Int) : (negIf b x == 0) = (x == 0) := by
  rw [← negIf_beq b x 0]; cases b <;> rfl

theorem Sq.mirror_mirror : ∀ s : Sq, s.mirror.mirror = s := fun s =>
  Fin.ext (by show s.val ^^^ 56 ^^^ 56 = s.val; rw [Nat.xor_assoc, Nat.xor_self, Nat.xor_zero])
theorem Sq.flipFile_flipFile : ∀ s : Sq, s.flipFile.flipFile = s := fun s =>
  Fin.ext (by show s.val ^^^ 7 ^^^ 7 = s.val; rw [Nat.xor_assoc, Nat.xor_self, Nat.xor_zero])
theorem Sq.mirror_flipFile (s : Sq) : s.mirror.flipFile = s.flipFile.mirror :=
  Fin.ext (by show s.val ^^^ 56 ^^^ 7 = s.val ^^^ 7 ^^^ 56; ac_rfl)
theorem Sq.mirror_file : ∀ s : Sq, s.mirror.file = s.file := by decide +kernel
theorem Sq.mirror_rank : ∀ s : Sq, s.mirror.rank = 7 - s.rank := by decide +kernel
theorem Sq.flipFile_file : ∀ s : Sq, s.flipFile.file = 7 - s.file := by decide +kernel
theorem Sq.flipFile_rank : ∀ s : Sq, s.flipFile.rank = s.rank := by decide +kernel

/-- A board symmetry: `fr` = flip the ranks and swap the colours, `ff` = flip the files. -/
structure Sym where
  fr : Bool
  ff : Bool

namespace Sym
def sq (T : Sym) (s : Sq) : Sq :=
  match T.fr, T.ff with
  | false, false => s
  | true, false => s.mirror
  | false, true => s.flipFile
  | true, true => s.mirror.flipFile
def col (T : Sym) (c : Color) : Color := match T.fr with | false => c | true => c.other
def dir (T : Sym) (u : Dir) : Dir :=
  let u1 : Dir := match T.fr with
    | false => u
    | true => match u with | .n => .s | .ne => .se | .e => .e | .se => .ne | .s => .n | .sw => .nw | .w => .w | .nw => .sw
  match T.ff with
  | false => u1
  | true => match u1 with | .n => .n | .ne => .nw | .e => .w | .se => .sw | .s => .s | .sw => .se | .w => .e | .nw => .ne
def mv (T : Sym) (m : Move) : Move := ⟨T.sq m.src, T.sq m.dst, m.promo⟩
def pc (T : Sym) (x : Piece × Color) : Piece × Color := (x.1, T.col x.2)
def pos (T : Sym) (p : Pos) : Pos where
  board s := (p.board (T.sq s)).map T.pc
  stm := T.col p.stm
  castleK c := p.castleK (T.col c)
  castleQ c := p.castleQ (T.col c)
  ep := p.ep.map T.sq

def mirror : Sym := ⟨true, false⟩
def flip : Sym := ⟨false, true⟩

@[simp] theorem sq_sq (T : Sym) : ∀ s : Sq, T.sq (T.sq s) = s := fun s => by
  rcases T with ⟨_|_, _|_⟩
  · rfl
  · exact s.flipFile_flipFile
  · exact s.mirror_mirror
  · show s.mirror.flipFile.mirror.flipFile = s
    rw [Sq.mirror_flipFile s, Sq.mirror_mirror, Sq.flipFile_flipFile]
theorem sq_inj (T : Sym) {a b : Sq} (h : T.sq a = T.sq b) : a = b := by
  have := congrArg T.sq h; simpa using this
@[simp] theorem sq_eq_iff (T : Sym) {a b : Sq} : T.sq a = T.sq b ↔ a = b := ⟨T.sq_inj, fun h => h ▸ rfl⟩
theorem sq_eq_comm (T : Sym) {a b : Sq} : T.sq a = b ↔ a = T.sq b := by
  constructor <;> (intro h; subst h; simp)
theorem forall_sq (T : Sym) {P : Sq → Prop} (h : ∀ s, P (T.sq s)) (s : Sq) : P s := T.sq_sq s ▸ h (T.sq s)
@[simp] theorem col_col (T : Sym) (c : Color) : T.col (T.col c) = c := by
  rcases T with ⟨_|_, _⟩ <;> simp [col]
@[simp] theorem col_eq_iff (T : Sym) {a b : Color} : T.col a = T.col b ↔ a = b :=
  ⟨fun h => by simpa using congrArg T.col h, fun h => h ▸ rfl⟩
theorem col_other (T : Sym) (c : Color) : T.col c.other = (T.col c).other := by
  rcases T with ⟨_|_, _⟩ <;> simp [col]
@[simp] theorem mv_mv (T : Sym) (m : Move) : T.mv (T.mv m) = m := by simp [mv]
@[simp] theorem mv_src (T : Sym) (m : Move) : (T.mv m).src = T.sq m.src := rfl
@[simp] theorem mv_dst (T : Sym) (m : Move) : (T.mv m).dst = T.sq m.dst := rfl
@[simp] theorem mv_promo (T : Sym) (m : Move) : (T.mv m).promo = m.promo := rfl

theorem sq_file (T : Sym) (s : Sq) : (T.sq s).file = flipIf T.ff s.file := by
  rcases T with ⟨_|_, _|_⟩ <;> simp [sq, flipIf, Sq.mirror_file, Sq.flipFile_file]
theorem sq_rank (T : Sym) (s : Sq) : (T.sq s).rank = flipIf T.fr s.rank := by
  rcases T with ⟨_|_, _|_⟩ <;> simp [sq, flipIf, Sq.mirror_rank, Sq.flipFile_rank]

theorem col_fwd (T : Sym) (c : Color) : (T.col c).fwd = negIf T.fr c.fwd := by
  rcases T with ⟨_|_, _⟩ <;> cases c <;> rfl
theorem col_homeRank (T : Sym) (c : Color) : (T.col c).homeRank = flipIf T.fr c.homeRank := by
  rcases T with ⟨_|_, _⟩ <;> cases c <;> rfl
theorem col_pawnRank (T : Sym) (c : Color) : (T.col c).pawnRank = flipIf T.fr c.pawnRank := by
  rcases T with ⟨_|_, _⟩ <;> cases c <;> rfl
theorem col_lastRank (T : Sym) (c : Color) : (T.col c).lastRank = flipIf T.fr c.lastRank := by
  rcases T with ⟨_|_, _⟩ <;> cases c <;> rfl

theorem dir_df (T : Sym) (u : Dir) : (T.dir u).df = negIf T.ff u.df := by
  rcases T with ⟨_|_, _|_⟩ <;> cases u <;> rfl
theorem dir_dr (T : Sym) (u : Dir) : (T.dir u).dr = negIf T.fr u.dr := by
  rcases T with ⟨_|_, _|_⟩ <;> cases u <;> rfl
@[simp] theorem dir_dir (T : Sym) (u : Dir) : T.dir (T.dir u) = u := by
  rcases T with ⟨_|_, _|_⟩ <;> cases u <;> rfl

theorem sq?_sym (T : Sym) (f r : Int) : sq? (flipIf T.ff f) (flipIf T.fr r) = (sq? f r).map T.sq := by
  cases h : sq? f r with
  | none =>
    rw [sq?_eq_none] at h
    rw [Option.map_none, sq?_eq_none]
    rcases T with ⟨_|_, _|_⟩ <;> simp only [flipIf, if_true, if_false, Bool.false_eq_true] <;> omega
  | some s =>
    rw [sq?_eq_some] at h
    rw [Option.map_some, sq?_eq_some, sq_file, sq_rank, h.1, h.2]
    exact ⟨rfl, rfl⟩

/-! ### rays -/
theorem step?_sym (T : Sym) (a : Sq) (u : Dir) (n : Nat) :
    step? (T.sq a) (T.dir u) n = (step? a u n).map T.sq := by
  unfold step?
  rw [sq_file, sq_rank, dir_df, dir_dr, mul_negIf, mul_negIf, flipIf_add_negIf, flipIf_add_negIf, sq?_sym]

theorem map_sq_beq (T : Sym) (x : Option Sq) (s : Sq) : (x.map T.sq == some (T.sq s)) = (x == some s) := by
  cases x
  · rfl
  · exact beq_congr (by simp)
theorem sq_beq (T : Sym) (a b : Sq) : (T.sq a == T.sq b) = (a == b) := beq_congr (by simp)
theorem sq_bne (T : Sym) (a b : Sq) : (T.sq a != T.sq b) = (a != b) := bne_congr (by simp)
theorem some_sq_beq_map (T : Sym) (x : Option Sq) (s : Sq) : (some (T.sq s) == x.map T.sq) = (some s == x) := by
  cases x
  · rfl
  · exact beq_congr (by simp)
theorem col_beq (T : Sym) (a b : Color) : (T.col a == T.col b) = (a == b) := beq_congr (by simp)
theorem map_col_beq (T : Sym) (x : Option Color) (c : Color) : (x.map T.col == some (T.col c)) = (x == some c) := by
  cases x
  · rfl
  · exact beq_congr (by simp)
theorem map_col_bne (T : Sym) (x : Option Color) (c : Color) : (x.map T.col != some (T.col c)) = (x != some c) := by
  unfold bne; rw [map_col_beq]

theorem onRay_sym (T : Sym) (a : Sq) (u : Dir) (n : Nat) (b : Sq) :
    onRay (T.sq a) (T.dir u) n (T.sq b) = onRay a u n b := by
  unfold onRay; rw [step?_sym, map_sq_beq]

def DirsClosed (ds : List Dir) : Prop := ∀ (T : Sym), ∀ u ∈ ds, T.dir u ∈ ds
theorem dirsClosed_rook : DirsClosed rookDirs := by rintro ⟨_|_, _|_⟩ <;> decide
theorem dirsClosed_bishop : DirsClosed bishopDirs := by rintro ⟨_|_, _|_⟩ <;> decide
theorem dirsClosed_all : DirsClosed allDirs := by rintro ⟨_|_, _|_⟩ <;> decide
theorem dirsClosed_of {ds : List Dir} (hds : ds = rookDirs ∨ ds = bishopDirs ∨ ds = allDirs) : DirsClosed ds := by
  rcases hds with rfl | rfl | rfl
  · exact dirsClosed_rook
  · exact dirsClosed_bishop
  · exact dirsClosed_all

theorem aligned_sym (T : Sym) {ds : List Dir} (hds : DirsClosed ds) (a b : Sq) :
    aligned ds (T.sq a) (T.sq b) = aligned ds a b := by
  unfold aligned
  rw [← any_invol T.dir_dir (hds T)]
  simp only [onRay_sym]

/-! ### strictly between -/
theorem sbCore_negf (dfb drb dfx drx : Int) : sbCore (-dfb) drb (-dfx) drx = sbCore dfb drb dfx drx := by
  unfold sbCore
  simp only [Int.neg_mul, Int.mul_neg, Int.neg_neg, Int.natAbs_neg]
  congr 3
  · congr 2; exact beq_congr (by omega)
  · exact beq_congr (by omega)
theorem sbCore_negr (dfb drb dfx drx : Int) : sbCore dfb (-drb) dfx (-drx) = sbCore dfb drb dfx drx := by
  unfold sbCore
  simp only [Int.neg_mul, Int.mul_neg, Int.neg_neg, Int.natAbs_neg]
  congr 3
  · congr 2; exact beq_congr (by omega)
  · exact beq_congr (by omega)

theorem strictlyBetween_sym (T : Sym) (a x b : Sq) :
    strictlyBetween (T.sq a) (T.sq x) (T.sq b) = strictlyBetween a x b := by
  simp only [strictlyBetween_eq, sq_file, sq_rank, flipIf_sub]
  rcases T with ⟨_|_, _|_⟩ <;> simp only [negIf, if_true, if_false, Bool.false_eq_true, sbCore_negf, sbCore_negr]

/-! ### quantifying over all squares -/
theorem any_sym (T : Sym) (f : Sq → Bool) : allSq.any f = allSq.any fun s => f (T.sq s) :=
  (any_invol T.sq_sq (fun _ _ => List.mem_finRange _) f).symm
theorem all_sym (T : Sym) (f : Sq → Bool) : allSq.all f = allSq.all fun s => f (T.sq s) :=
  (all_invol T.sq_sq (fun _ _ => List.mem_finRange _) f).symm

/-! ### positions -/
@[simp] theorem pos_stm (T : Sym) (p : Pos) : (T.pos p).stm = T.col p.stm := rfl
@[simp] theorem pos_ep (T : Sym) (p : Pos) : (T.pos p).ep = p.ep.map T.sq := rfl
@[simp] theorem pos_castleK (T : Sym) (p : Pos) (c : Color) : (T.pos p).castleK c = p.castleK (T.col c) := rfl
@[simp] theorem pos_castleQ (T : Sym) (p : Pos) (c : Color) : (T.pos p).castleQ c = p.castleQ (T.col c) := rfl
theorem pos_board (T : Sym) (p : Pos) (s : Sq) : (T.pos p).board (T.sq s) = (p.board s).map T.pc :=
  congrArg (fun x => (p.board x).map T.pc) (T.sq_sq s)
theorem pos_empty (T : Sym) (p : Pos) (s : Sq) : (T.pos p).empty (T.sq s) = p.empty s := by
  unfold Pos.empty; rw [pos_board]; cases p.board s <;> rfl
theorem pos_colorAt (T : Sym) (p : Pos) (s : Sq) : (T.pos p).colorAt (T.sq s) = (p.colorAt s).map T.col := by
  unfold Pos.colorAt; rw [pos_board]; cases p.board s <;> rfl
theorem pc_inj (T : Sym) {x y : Piece × Color} : T.pc x = T.pc y ↔ x = y := by
  rcases x with ⟨a, b⟩; rcases y with ⟨c, d⟩; simp [pc]
theorem pos_has (T : Sym) (p : Pos) (s : Sq) (k : Piece) (c : Color) :
    (T.pos p).has (T.sq s) k (T.col c) = p.has s k c := by
  unfold Pos.has; rw [pos_board]
  cases p.board s with
  | none => rfl
  | some x => exact beq_congr (by rw [Option.map_some, Option.some.injEq, Option.some.injEq]; exact T.pc_inj (y := (k, c)))
theorem pos_board_eq_some (T : Sym) (p : Pos) (s : Sq) (k : Piece) (c : Color) :
    (T.pos p).board (T.sq s) = some (k, T.col c) ↔ p.board s = some (k, c) := by
  have := pos_has T p s k c
  unfold Pos.has at this
  rw [Bool.eq_iff_iff] at this; simpa using this

theorem pathClear_sym (T : Sym) (p : Pos) (a b : Sq) :
    pathClear (T.pos p) (T.sq a) (T.sq b) = pathClear p a b := by
  unfold pathClear
  rw [all_sym T]
  simp only [strictlyBetween_sym, pos_empty]

theorem slides_sym (T : Sym) {ds : List Dir} (hds : DirsClosed ds) (p : Pos) (a b : Sq) :
    slides ds (T.pos p) (T.sq a) (T.sq b) = slides ds p a b := by
  unfold slides; rw [aligned_sym T hds, pathClear_sym]

theorem attacks_sym (T : Sym) (p : Pos) (a b : Sq) :
    attacks (T.pos p) (T.sq a) (T.sq b) = attacks p a b := by
  simp only [attacks, pos_board]
  cases p.board a with
  | none => rfl
  | some x =>
    rcases x with ⟨k, c⟩
    cases k <;> simp only [Option.map_some, pc, sq_file, sq_rank, flipIf_sub, natAbs_negIf, col_fwd, negIf_beq,
      slides_sym T dirsClosed_rook, slides_sym T dirsClosed_bishop, slides_sym T dirsClosed_all,
      ← any_invol T.dir_dir (dirsClosed_all T) fun u => onRay (T.sq a) u 1 (T.sq b), onRay_sym]

theorem attackedBy_sym (T : Sym) (p : Pos) (c : Color) (t : Sq) :
    attackedBy (T.pos p) (T.col c) (T.sq t) = attackedBy p c t := by
  unfold attackedBy
  rw [any_sym T]
  simp only [pos_colorAt, map_col_beq, attacks_sym]

def _root_.Chess.UniqueKing (p : Pos) (c : Color) : Prop :=
  ∀ a b, p.board a = some (.king, c) → p.board b = some (.king, c) → a = b

theorem _root_.Chess.UniqueKing.of_count {p : Pos} {c : Color} (h : count p (· == (.king, c)) ≤ 1) : UniqueKing p c :=
  fun _ _ => king_unique h

theorem uniqueKing_pos (T : Sym) {p : Pos} {c : Color} (hu : UniqueKing p c) : UniqueKing (T.pos p) (T.col c) :=
  T.forall_sq fun a => T.forall_sq fun b ha hb =>
    congrArg T.sq (hu a b ((pos_board_eq_some ..).mp ha) ((pos_board_eq_some ..).mp hb))

theorem kingSq?_sym (T : Sym) (p : Pos) (c : Color) (hu : UniqueKing p c) :
    kingSq? (T.pos p) (T.col c) = (kingSq? p c).map T.sq := by
  unfold kingSq?
  cases h : allSq.find? (fun s => p.has s .king c) with
  | none =>
    rw [List.find?_eq_none] at h
    rw [Option.map_none, List.find?_eq_none]
    intro x _
    have := h (T.sq x) (List.mem_finRange _)
    rwa [← pos_has T, sq_sq] at this
  | some k =>
    -- the first king of the image is a king, and the image of `k` is the only one
    have hk := List.find?_some h
    have hk : (T.pos p).board (T.sq k) = some (.king, T.col c) := (pos_board_eq_some ..).mpr (beq_iff_eq.mp hk)
    cases h' : allSq.find? (fun s => (T.pos p).has s .king (T.col c)) with
    | none => exact absurd (beq_iff_eq.mpr hk) (List.find?_eq_none.mp h' _ (List.mem_finRange _))
    | some k' =>
      have hk' := List.find?_some h'
      rw [uniqueKing_pos T hu _ _ (beq_iff_eq.mp hk') hk]; rfl

theorem inCheck_sym (T : Sym) (p : Pos) (c : Color) (hu : UniqueKing p c) :
    inCheck (T.pos p) (T.col c) = inCheck p c := by
  unfold inCheck
  rw [kingSq?_sym T p c hu]
  cases kingSq? p c with
  | none => rfl
  | some k => simp only [Option.map_some, ← col_other, attackedBy_sym]

/-! ### pseudo-legal moves -/
theorem pawnOk_sym (T : Sym) (p : Pos) (m : Move) (c : Color) :
    pawnOk (T.pos p) (T.mv m) (T.col c) = pawnOk p m c := by
  simp only [pawnOk, promoShape, pawnStd, epClause, mv_src, mv_dst, mv_promo, sq_file, sq_rank, col_lastRank,
    col_pawnRank, col_fwd, flipIf_sub, flipIf_beq, negIf_beq, negIf_beq_zero, mul_negIf, natAbs_negIf, flipIf_add_negIf, sq?_sym,
    pos_empty, pos_colorAt, ← col_other, map_col_beq]
  cases sq? m.src.file (m.src.rank + c.fwd) <;> cases sq? m.dst.file m.src.rank <;>
    simp only [Option.map_some, Option.map_none, pos_empty, pos_ep, map_sq_beq, pos_has]

def _root_.Chess.NoCastle (p : Pos) : Prop := ∀ c, p.castleK c = false ∧ p.castleQ c = false
/-- the side condition of a symmetry: a file flip is only a symmetry for positions without castling rights -/
def Ok (T : Sym) (p : Pos) : Prop := T.ff = true → NoCastle p

theorem noCastle_pos (T : Sym) {p : Pos} (h : NoCastle p) : NoCastle (T.pos p) := fun c => h (T.col c)
theorem ok_mirror (p : Pos) : mirror.Ok p := nofun
theorem ok_flip {p : Pos} (h : NoCastle p) : flip.Ok p := fun _ => h

theorem castleOk_noCastle {p : Pos} (h : NoCastle p) (m : Move) (c : Color) : castleOk p m c = false := by
  simp only [castleOk, (h c).1, (h c).2, ite_self, Bool.false_and, Bool.and_false]

theorem sq?_noflip {T : Sym} (h : T.ff = false) (f r : Int) : sq? f (flipIf T.fr r) = (sq? f r).map T.sq := by
  rw [← sq?_sym, h]; rfl
theorem homeSq_sym {T : Sym} (h : T.ff = false) (c : Color) (f : Int) :
    homeSq (T.col c) f = (homeSq c f).map T.sq := by
  unfold homeSq; rw [col_homeRank, sq?_noflip h]

theorem castleOk_sym (T : Sym) (p : Pos) (hok : T.Ok p) (m : Move) (c : Color) :
    castleOk (T.pos p) (T.mv m) (T.col c) = castleOk p m c := by
  cases h : T.ff with
  | true => rw [castleOk_noCastle (hok h), castleOk_noCastle (noCastle_pos T (hok h))]
  | false =>
    have hf : ∀ a, (T.sq a).file = a.file := fun a => by rw [sq_file, h]; rfl
    simp only [castleOk, mv_src, mv_dst, hf, sq_rank, col_homeRank, flipIf_beq, flipIf_sub, negIf_beq_zero,
      pos_castleK, pos_castleQ, col_col, sq?_noflip h]
    cases sq? (if (m.dst.file - m.src.file == 2) = true then 7 else 0) c.homeRank <;>
    cases sq? (4 + (m.dst.file - m.src.file) / 2) c.homeRank <;>
      simp only [Option.map_some, Option.map_none, pos_has, pathClear_sym, ← col_other, attackedBy_sym]

theorem pseudoLegal_sym (T : Sym) (p : Pos) (hok : T.Ok p) (m : Move) :
    pseudoLegal (T.pos p) (T.mv m) = pseudoLegal p m := by
  rw [pseudoLegal_eq, pseudoLegal_eq, mv_src, pos_board]
  cases p.board m.src with
  | none => rfl
  | some x =>
    rcases x with ⟨k, c'⟩
    simp only [Option.map_some, pc, pos_stm, col_beq, mv_dst, pos_colorAt, map_col_bne]
    cases k <;> simp only [pawnOk_sym, castleOk_sym T p hok, mv_promo, ← mv_src, ← mv_dst] <;>
      simp only [mv_src, mv_dst, attacks_sym]

/-! ### successor position -/
theorem _root_.Chess.Pos.ext_pointwise {p q : Pos} (hb : ∀ s, p.board s = q.board s) (hs : p.stm = q.stm)
    (hk : ∀ c, p.castleK c = q.castleK c) (hq : ∀ c, p.castleQ c = q.castleQ c) (he : p.ep = q.ep) : p = q := by
  cases p; cases q
  exact Pos.mk.injEq .. ▸ ⟨funext hb, hs, funext hk, funext hq, he⟩

theorem apply_stm (p : Pos) (m : Move) : (apply p m).stm = p.stm.other := rfl

theorem movedMan_sym (T : Sym) (p : Pos) (m : Move) : movedMan (T.pos p) (T.mv m) = (movedMan p m).map T.pc := by
  unfold movedMan; rw [mv_src, pos_board, mv_promo]
  rcases p.board m.src with _ | ⟨_|_|_|_|_|_, _⟩ <;> cases m.promo <;> rfl

theorem isEnPassant_sym (T : Sym) (p : Pos) (m : Move) : isEnPassant (T.pos p) (T.mv m) = isEnPassant p m := by
  unfold isEnPassant; rw [mv_src, mv_dst, pos_board, sq_file, sq_file, flipIf_bne, pos_empty]
  rcases p.board m.src with _ | ⟨_|_|_|_|_|_, _⟩ <;> rfl
theorem isCastle_sym (T : Sym) (p : Pos) (m : Move) : isCastle (T.pos p) (T.mv m) = isCastle p m := by
  unfold isCastle; rw [mv_src, mv_dst, pos_board, sq_file, sq_file, flipIf_sub, natAbs_negIf]
  rcases p.board m.src with _ | ⟨_|_|_|_|_|_, _⟩ <;> rfl
theorem isDoubleStep_sym (T : Sym) (p : Pos) (m : Move) : isDoubleStep (T.pos p) (T.mv m) = isDoubleStep p m := by
  unfold isDoubleStep; rw [mv_src, mv_dst, pos_board, sq_rank, sq_rank, flipIf_sub, natAbs_negIf]
  rcases p.board m.src with _ | ⟨_|_|_|_|_|_, _⟩ <;> rfl

theorem epVictim_sym (T : Sym) (p : Pos) (m : Move) : epVictim (T.pos p) (T.mv m) = (epVictim p m).map T.sq := by
  unfold epVictim; rw [isEnPassant_sym, mv_src, mv_dst, sq_file, sq_rank, sq?_sym]
  cases isEnPassant p m <;> rfl

/-- `apply` puts the castling rook on files that are not left/right symmetric -/
theorem castleSq_sym {T : Sym} (p : Pos) (m : Move) (h : T.ff = true → isCastle p m = false) (k q : Int) :
    castleSq (T.pos p) (T.mv m) k q = (castleSq p m k q).map T.sq := by
  unfold castleSq; rw [isCastle_sym]
  cases hc : isCastle p m with
  | false => rfl
  | true =>
    have hff : T.ff = false := Bool.eq_false_iff.mpr fun hf => by rw [h hf] at hc; cases hc
    simp only [if_true, pos_stm, mv_src, mv_dst, sq_file, hff, homeSq_sym hff]
    rfl

theorem touched_sym (T : Sym) (m : Move) (x : Option Sq) : touched (T.mv m) (x.map T.sq) = touched m x := by
  unfold touched; rw [mv_src, mv_dst, map_sq_beq, map_sq_beq]

/-- a castling right after the move, as `apply` computes it from the right `a` before (`f` the rook's file) -/
theorem right_sym (T : Sym) (m : Move) {a : Bool} (hok : T.ff = true → a = false) (f : Int) (d : Color) :
    (a && !touched m (homeSq (T.col d) 4) && !touched m (homeSq (T.col d) f)) =
      (a && !touched (T.mv m) (homeSq d 4) && !touched (T.mv m) (homeSq d f)) := by
  cases hf : T.ff with
  | true => rw [hok hf]; rfl
  | false =>
    have e : ∀ f, homeSq d f = (homeSq (T.col d) f).map T.sq := fun f => by rw [← homeSq_sym hf, col_col]
    rw [e, e, touched_sym, touched_sym]

theorem apply_sym (T : Sym) (p : Pos) (hok : T.Ok p) (m : Move) (h : T.ff = true → isCastle p m = false) :
    T.pos (apply p m) = apply (T.pos p) (T.mv m) := by
  apply Pos.ext_pointwise
  · refine T.forall_sq fun s => ?_
    rw [pos_board, apply_board, apply_board, movedMan_sym, epVictim_sym, castleSq_sym p m h, castleSq_sym p m h]
    simp only [mv_src, mv_dst, sq_beq, some_sq_beq_map, pos_stm, pos_board, apply_ite (Option.map T.pc)]
    rfl
  · exact T.col_other _
  · intro d
    rw [pos_castleK, apply_castleK, apply_castleK, pos_castleK]
    exact right_sym T m (fun hf => (hok hf _).1) 7 d
  · intro d
    rw [pos_castleQ, apply_castleQ, apply_castleQ, pos_castleQ]
    exact right_sym T m (fun hf => (hok hf _).2) 0 d
  · rw [pos_ep, apply_ep, apply_ep, isDoubleStep_sym, mv_dst]
    cases isDoubleStep p m <;> rfl

/-! ### legality -/
theorem _root_.Chess.pseudoLegal_not_castle {p : Pos} (hn : NoCastle p) {m : Move} (h : pseudoLegal p m = true) :
    isCastle p m = false := by
  rw [pseudoLegal_eq] at h
  unfold isCastle
  cases hb : p.board m.src with
  | none => rfl
  | some x =>
    rcases x with ⟨k, c⟩
    cases k <;> try rfl
    rw [hb] at h
    simp only [castleOk_noCastle hn, Bool.or_false, Bool.and_eq_true] at h
    have := (king_attacks_near hb h.2.2).1
    simp only [Bool.true_and, beq_eq_false_iff_ne, ne_eq]
    omega

/-- the hypothesis is on the number of kings because that is what a move is known not to raise -/
theorem legal_sym (T : Sym) (p : Pos) (hok : T.Ok p) (h1 : count p (· == (.king, p.stm)) ≤ 1) (m : Move) :
    legal (T.pos p) (T.mv m) = legal p m := by
  unfold legal
  rw [pseudoLegal_sym T p hok]
  cases hp : pseudoLegal p m with
  | false => rw [Bool.false_and, Bool.false_and]
  | true =>
    rw [← apply_sym T p hok m (fun hf => pseudoLegal_not_castle (hok hf) hp), pos_stm,
      inCheck_sym T _ _ (.of_count (Nat.le_trans (kings_le hp _) h1))]

/-! ### move lists, status, checkers, pins -/
theorem _root_.Chess.mem_candidates (p : Pos) (m : Move) :
    m ∈ candidates p ↔ p.colorAt m.src = some p.stm ∧ (m.promo = none ∨ m.promo ∈ promoPieces.map some) := by
  rcases m with ⟨s, d, q⟩
  simp only [candidates, List.mem_flatMap, List.mem_filter, List.mem_map, List.mem_cons, beq_iff_eq,
    Move.mk.injEq, allSq, List.mem_finRange, true_and]
  constructor
  · rintro ⟨s', hs, d', q', hq, rfl, rfl, rfl⟩
    exact ⟨hs, hq⟩
  · rintro ⟨hs, hq⟩
    exact ⟨s, hs, d, q, hq, rfl, rfl, rfl⟩

theorem mem_candidates_sym (T : Sym) (p : Pos) (m : Move) : T.mv m ∈ candidates (T.pos p) ↔ m ∈ candidates p := by
  rw [mem_candidates, mem_candidates, mv_src, mv_promo, pos_colorAt, pos_stm, ← beq_iff_eq, map_col_beq, beq_iff_eq]

theorem mem_legalMoves_sym (T : Sym) (p : Pos) (hok : T.Ok p) (h1 : count p (· == (.king, p.stm)) ≤ 1) (m : Move) :
    T.mv m ∈ legalMoves (T.pos p) ↔ m ∈ legalMoves p := by
  unfold legalMoves
  rw [List.mem_filter, List.mem_filter, mem_candidates_sym, legal_sym T p hok h1]

theorem mem_legalMoves_image (T : Sym) (p : Pos) (hok : T.Ok p) (h1 : count p (· == (.king, p.stm)) ≤ 1) (m' : Move) :
    m' ∈ legalMoves (T.pos p) ↔ ∃ m ∈ legalMoves p, T.mv m = m' :=
  ⟨fun h => ⟨T.mv m', (mem_legalMoves_sym T p hok h1 _).mp (by rwa [mv_mv]), T.mv_mv m'⟩,
    fun ⟨m, hm, e⟩ => e ▸ (mem_legalMoves_sym T p hok h1 m).mpr hm⟩

theorem any_legal_sym (T : Sym) (p : Pos) (hok : T.Ok p) (h1 : count p (· == (.king, p.stm)) ≤ 1) :
    (candidates (T.pos p)).any (legal (T.pos p)) = (candidates p).any (legal p) := by
  have key : ∀ q : Pos, (candidates q).any (legal q) = true ↔ ∃ m, m ∈ legalMoves q := fun q => by
    simp only [List.any_eq_true, legalMoves, List.mem_filter]
  rw [Bool.eq_iff_iff, key, key]
  exact ⟨fun ⟨m', h⟩ => let ⟨m, hm, _⟩ := (mem_legalMoves_image T p hok h1 m').mp h; ⟨m, hm⟩,
    fun ⟨m, hm⟩ => ⟨_, (mem_legalMoves_sym T p hok h1 m).mpr hm⟩⟩

theorem status_sym (T : Sym) (p : Pos) (hok : T.Ok p) (h1 : count p (· == (.king, p.stm)) ≤ 1) :
    status (T.pos p) = status p := by
  unfold status
  rw [any_legal_sym T p hok h1, pos_stm, inCheck_sym T p _ (.of_count h1)]

theorem checkerSq_sym (T : Sym) (p : Pos) (hu : UniqueKing p p.stm) (x : Sq) :
    checkerSq (T.pos p) (T.sq x) = checkerSq p x := by
  unfold checkerSq
  rw [pos_stm, kingSq?_sym T p _ hu]
  cases kingSq? p p.stm with
  | none => rfl
  | some k => simp only [Option.map_some, pos_colorAt, ← col_other, map_col_beq, attacks_sym]

theorem pinnedSq_sym (T : Sym) (p : Pos) (hu : UniqueKing p p.stm) (y : Sq) :
    pinnedSq (T.pos p) (T.sq y) = pinnedSq p y := by
  unfold pinnedSq
  rw [pos_stm, kingSq?_sym T p _ hu]
  cases kingSq? p p.stm with
  | none => rfl
  | some k =>
    simp only [Option.map_some]
    rw [any_sym T]
    simp only [pos_colorAt, ← col_other, map_col_beq, sq_bne, strictlyBetween_sym, pos_board]
    refine congrArg (and _) (congrArg _ (funext fun x => ?_))
    rw [all_sym T]
    simp only [strictlyBetween_sym, sq_beq, pos_empty]
    cases p.board x with
    | none => rfl
    | some z =>
      rcases z with ⟨k', c'⟩
      cases k' <;> simp only [Option.map_some, pc, aligned_sym T dirsClosed_rook, aligned_sym T dirsClosed_bishop,
        aligned_sym T dirsClosed_all]

/-! ### counting, validity, normalisation -/
theorem perm_allSq (T : Sym) : (allSq.map T.sq).Perm allSq := by
  rw [List.perm_ext_iff_of_nodup]
  · intro a
    simp only [List.mem_map, allSq, List.mem_finRange, true_and, iff_true]
    exact ⟨T.sq a, sq_sq T a⟩
  · unfold List.Nodup
    rw [List.pairwise_map]
    exact (List.nodup_finRange 64).imp (fun h e => h (T.sq_inj e))
  · exact List.nodup_finRange 64

theorem count_sym (T : Sym) (p : Pos) (f f' : Piece × Color → Bool) (h : ∀ x, f' (T.pc x) = f x) :
    count (T.pos p) f' = count p f := by
  unfold count
  rw [← List.countP_eq_length_filter, ← List.countP_eq_length_filter, ← (perm_allSq T).countP_eq, List.countP_map]
  refine congrArg (List.countP · allSq) (funext fun s => ?_)
  show ((T.pos p).board (T.sq s)).any f' = (p.board s).any f
  rw [pos_board]
  cases p.board s with
  | none => rfl
  | some x => exact h x

theorem count_king_sym (T : Sym) (p : Pos) (c : Color) :
    count (T.pos p) (· == (.king, T.col c)) = count p (· == (.king, c)) :=
  count_sym T p _ _ fun _ => beq_congr (T.pc_inj (y := (.king, c)))
theorem count_pawn_sym (T : Sym) (p : Pos) (c : Color) :
    count (T.pos p) (· == (.pawn, T.col c)) = count p (· == (.pawn, c)) :=
  count_sym T p _ _ fun _ => beq_congr (T.pc_inj (y := (.pawn, c)))
theorem count_color_sym (T : Sym) (p : Pos) (c : Color) :
    count (T.pos p) (·.2 == T.col c) = count p (·.2 == c) :=
  count_sym T p _ _ fun x => beq_congr (by simp [pc])

theorem predPos_sym (T : Sym) (p : Pos) (q org : Sq) :
    T.pos (predPos p q org) = predPos (T.pos p) (T.sq q) (T.sq org) := by
  apply Pos.ext_pointwise
  · refine T.forall_sq fun s => ?_
    rw [pos_board]
    simp only [predPos, sq_beq, pos_board, pos_stm, apply_ite (Option.map T.pc), Option.map_some, Option.map_none, pc,
      col_other]
  · rfl
  · intro c; rfl
  · intro c; rfl
  · rfl

theorem _root_.Chess.uniqueKing_predPos {p : Pos} {c : Color} (hu : UniqueKing p c) (q org : Sq) :
    UniqueKing (predPos p q org) c := by
  have key : ∀ a, (predPos p q org).board a = some (.king, c) → p.board a = some (.king, c) := by
    intro a ha
    simp only [predPos] at ha
    split at ha
    · cases ha
    split at ha
    · cases ha
    · exact ha
  exact fun a b ha hb => hu _ _ (key a ha) (key b hb)

theorem epValid_sym (T : Sym) (p : Pos) (hu : UniqueKing p p.stm) : epValid (T.pos p) = epValid p := by
  rw [epValid_eq, epValid_eq, pos_ep]
  cases p.ep with
  | none => rfl
  | some q =>
    simp only [Option.map_some, pos_stm, ← col_other, pos_has, sq_file, sq_rank, col_pawnRank, col_fwd, mul_negIf,
      flipIf_add_negIf, flipIf_sub_negIf, flipIf_beq, sq?_sym]
    cases sq? q.file (q.rank - p.stm.other.fwd) <;> cases h : sq? q.file p.stm.other.pawnRank <;>
      simp only [Option.map_some, Option.map_none, pos_empty]
    rename_i mid org
    rw [← pos_stm, ← predPos_sym, pos_stm, inCheck_sym T _ _ (uniqueKing_predPos hu q org)]

theorem any_home_sym {T : Sym} (hf : T.ff = false) (p : Pos) (c : Color) (f : Int) (k : Piece) :
    (homeSq (T.col c) f).any ((T.pos p).has · k (T.col c)) = (homeSq c f).any (p.has · k c) := by
  rw [homeSq_sym hf]
  cases homeSq c f with
  | none => rfl
  | some s => simp only [Option.map_some, Option.any_some, pos_has]

theorem validSide_sym (T : Sym) (p : Pos) (hok : T.Ok p) (c : Color) : validSide (T.pos p) (T.col c) = validSide p c := by
  unfold validSide
  rw [count_king_sym, count_color_sym, count_pawn_sym, pos_castleK, pos_castleQ, col_col]
  cases hf : T.ff with
  | false => simp only [any_home_sym hf]
  | true => simp only [(hok hf c).1, (hok hf c).2, Bool.not_false, Bool.true_or]

theorem all_colors_sym (T : Sym) (g : Color → Bool) :
    [Color.white, Color.black].all (fun c => g (T.col c)) = [Color.white, Color.black].all g :=
  all_invol T.col_col (fun c _ => by cases T.col c <;> decide) g

theorem pawnsOk_sym (T : Sym) (p : Pos) : pawnsOk (T.pos p) = pawnsOk p := by
  unfold pawnsOk
  rw [all_sym T]
  refine congrArg allSq.all (funext fun s => ?_)
  rw [pos_board, sq_rank]
  congr 1
  · cases p.board s <;> rfl
  · cases T.fr
    · rfl
    · rw [Bool.and_comm]
      congr 1 <;> exact bne_congr (by simp only [flipIf, if_true]; omega)

theorem _root_.Chess.UniqueKing.of_valid {p : Pos} (h : Valid p = true) (c : Color) : UniqueKing p c :=
  .of_count (Nat.le_of_eq (((valid_iff p).mp h).king c))

theorem valid_sym (T : Sym) (p : Pos) (hok : T.Ok p) : Valid (T.pos p) = Valid p := by
  rw [Valid_eq, Valid_eq, ← all_colors_sym T (validSide (T.pos p))]
  simp only [validSide_sym T p hok, pawnsOk_sym]
  cases h : [Color.white, Color.black].all (validSide p) with
  | false => simp only [Bool.false_and]
  | true =>
    have hu : ∀ c, UniqueKing p c := fun c => .of_count <| by
      have := (allColors_all _).mp h c
      simp only [validSide, Bool.and_eq_true, beq_iff_eq] at this
      omega
    rw [pos_stm, ← col_other, inCheck_sym T p _ (hu _), epValid_sym T p (hu _)]

theorem normKeep_sym (T : Sym) (p : Pos) (q : Sq) : normKeep (T.pos p) (T.sq q) = normKeep p q := by
  unfold normKeep
  rw [any_sym T]
  simp only [sq_rank, sq_file, flipIf_beq, flipIf_sub, natAbs_negIf, pos_stm, pos_has]

theorem norm_sym (T : Sym) (p : Pos) : T.pos (norm p) = norm (T.pos p) := by
  apply Pos.ext_pointwise
  · intro s; rfl
  · rfl
  · intro c; rfl
  · intro c; rfl
  · rw [pos_ep, norm_ep, norm_ep, pos_ep]
    cases p.ep with
    | none => rfl
    | some q =>
      simp only [Option.map_some, normKeep_sym]
      cases normKeep p q <;> rfl

/-! ### the two symmetries of the specification file are instances -/
def _root_.Chess.Dir.mirror : Dir → Dir
  | .n => .s | .ne => .se | .e => .e | .se => .ne | .s => .n | .sw => .nw | .w => .w | .nw => .sw
def _root_.Chess.Dir.flipFile : Dir → Dir
  | .n => .n | .ne => .nw | .e => .w | .se => .sw | .s => .s | .sw => .se | .w => .e | .nw => .ne
theorem mirror_dir (u : Dir) : u.mirror = mirror.dir u := by cases u <;> rfl
theorem flip_dir (u : Dir) : u.flipFile = flip.dir u := by cases u <;> rfl
theorem mirror_sq (s : Sq) : s.mirror = mirror.sq s := rfl
theorem flip_sq (s : Sq) : s.flipFile = flip.sq s := rfl
theorem mirror_mv (m : Move) : m.mirror = mirror.mv m := rfl
theorem flip_mv (m : Move) : m.flipFile = flip.mv m := rfl
theorem mirror_col (c : Color) : c.other = mirror.col c := rfl
theorem flip_col (c : Color) : c = flip.col c := rfl
theorem mirror_pos (p : Pos) : p.mirror = mirror.pos p := rfl
theorem flip_pos (p : Pos) : p.flipFiles = flip.pos p := by
  apply Pos.ext_pointwise
  · intro s
    show p.board s.flipFile = (p.board s.flipFile).map _
    cases p.board s.flipFile <;> rfl
  · rfl
  · intro c; rfl
  · intro c; rfl
  · rfl

end Sym
end Chess
