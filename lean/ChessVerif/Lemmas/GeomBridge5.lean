import ChessVerif.Lemmas.GeomBridge4
/-
Geometry, part 5: the leaper tables (`Geom.king`, `Geom.knight`, `Geom.pawnAttacks`) and symmetries of
the `Geom.between` table.
-/
namespace Chess
open PinCheck

theorem natAbs_sub_comm (x y : Int) : (x - y).natAbs = (y - x).natAbs := by omega

/-! ### king and knight -/

theorem mem_knight_symm (a b : Sq) :
    (Geom.knight a).getLsbD b.val = (Geom.knight b).getLsbD a.val := by
  rw [mem_knight, mem_knight, natAbs_sub_comm b.file, natAbs_sub_comm b.rank]

theorem mem_king_symm (a b : Sq) :
    (Geom.king a).getLsbD b.val = (Geom.king b).getLsbD a.val := by
  rw [mem_king, mem_king, natAbs_sub_comm b.file, natAbs_sub_comm b.rank, bne_comm]

/-- the king table is the specification's king attack (`attacks` for a king: one step in any direction) -/
theorem mem_king_spec (s x : Sq) :
    (Geom.king s).getLsbD x.val = allDirs.any fun u => onRay s u 1 x := by
  rw [mem_king, Bool.eq_iff_iff, List.any_eq_true]
  simp only [Bool.and_eq_true, bne_iff_ne, ne_eq, decide_eq_true_eq]
  constructor
  · rintro ⟨⟨hne, hf⟩, hr⟩
    obtain ⟨u, i, hi, h⟩ := exists_At (Ne.symm hne) (by omega)
    have := h.dist (Int.le_of_lt hi)
    obtain rfl : i = 1 := by omega
    exact ⟨u, mem_allDirs u, onRay_of_At hi h⟩
  · rintro ⟨u, _, hu⟩
    obtain ⟨_, h⟩ := (onRay_iff s u 1 x).mp hu
    have := At.dist h (by omega)
    exact ⟨⟨At.ne h (by omega), by omega⟩, by omega⟩

theorem knight_not_aligned {s d : Sq} (hk : (Geom.knight s).getLsbD d.val = true)
    (ha : aligned allDirs s d = true) : False := by
  rw [mem_knight] at hk
  rw [aligned_all_iff] at ha
  simp only [Bool.or_eq_true, Bool.and_eq_true, beq_iff_eq] at hk
  omega

/-! ### pawn attacks -/

theorem Color.other_fwd (c : Color) : c.other.fwd = -c.fwd := by cases c <;> rfl

/-- a pawn of colour `c.other` on `x` attacks `k` iff `x` is in the `c`-pawn attack set of `k` -/
theorem mem_pawnAttacks_symm (c : Color) (k x : Sq) :
    (Geom.pawnAttacks c k).getLsbD x.val = (Geom.pawnAttacks c.other x).getLsbD k.val := by
  rw [mem_pawnAttacks, mem_pawnAttacks, Color.other_fwd, natAbs_sub_comm x.file]
  congr 1
  rw [Bool.eq_iff_iff, beq_iff_eq, beq_iff_eq]
  omega

theorem mem_pawnAttacks_symm_iff (c : Color) (k x : Sq) :
    (Geom.pawnAttacks c k).getLsbD x.val = true ↔ (Geom.pawnAttacks c.other x).getLsbD k.val = true := by
  rw [mem_pawnAttacks_symm]

theorem mem_pawnAttacks_iff (c : Color) (s x : Sq) : (Geom.pawnAttacks c s).getLsbD x.val = true ↔
    x.rank = s.rank + c.fwd ∧ (x.file = s.file + 1 ∨ x.file = s.file - 1) := by
  rw [mem_pawnAttacks, Bool.and_eq_true, beq_iff_eq, beq_iff_eq]
  omega

/-! ### `between` -/

theorem between_symm (a b : Sq) : Geom.between a b = Geom.between b a :=
  BB.ext fun z => by rw [mem_between, mem_between, strictlyBetween_symm]

theorem between_aligned {a b x : Sq} (h : (Geom.between a b).getLsbD x.val = true) :
    aligned allDirs a b = true :=
  strictlyBetween_aligned ((mem_between a b x).symm.trans h)

theorem between_self (a : Sq) : Geom.between a a = 0#64 :=
  (BB.eq_zero_iff _).mpr fun z => by
    rw [mem_between]
    cases h : strictlyBetween a z a with
    | false => rfl
    | true => exact absurd rfl (strictlyBetween_ends_ne h)

end Chess
