import ChessVerif.Lemmas.Game
import ChessVerif.Lemmas.Entries
/-!
# A legal move starts from an occupied square (on boards whose `combined` covers the piece boards)

`Board.legal T b m` only says that the generator yields `m`.  `make_move_new` panics iff the source
square is empty in `combined`.  The two meet when (a) every own piece is recorded in `combined` and
(b) the side to move has a king — both are part of `Board::is_sane`.  Without them the statement is
false (`Props.C10_legal_makeMove_some_fails_on_insane_board`).

The source of a generated move is read off `Entries.mem_legalMoves_cases`: a square of an own piece
board, or the own king square.
-/
namespace Chess
namespace Board

theorem pieceOn_isSome (b : Board) (s : Sq) : (b.pieceOn s).isSome = b.combined.getLsbD s.val := by
  unfold pieceOn
  simp only [apply_ite Option.isSome, Option.isSome_some, Option.isSome_none, ite_self]
  cases hb : b.combined.getLsbD s.val
  · rw [if_pos ((and_ofSq_eq_zero_iff _ _).mpr hb)]
  · rw [if_neg ((and_ofSq_ne_zero_iff _ _).mpr hb)]

/-- what is needed of a board so that generated moves start on occupied squares -/
structure SrcOK (b : Board) : Prop where
  covered : ∀ p i, (b.pieces p &&& b.colorCombined b.stm).getLsbD i = true → b.combined.getLsbD i = true
  king : b.kings &&& b.colorCombined b.stm ≠ 0#64

theorem src_occupied_of_isMove {T : Tables} {b : Board} (hb : SrcOK b) {ic : Bool} {m : Move}
    (h : Entries.IsMove T b ic m) : b.combined.getLsbD m.src.val = true := by
  rcases h with ⟨p, _, h, _⟩ | ⟨q, _, h, _⟩ | ⟨h, _⟩
  · exact hb.covered p _ h
  · unfold Entries.epSources at h
    rw [BitVec.getLsbD_and, Bool.and_eq_true] at h
    exact hb.covered .pawn _ h.2
  · exact h ▸ hb.covered .king _ (BB.getLsbD_toSq _ hb.king)

/-- **a legal move never makes `make_move_new` panic**, on a board whose `combined` covers the own
pieces and whose side to move has a king -/
theorem legal_makeMove_some {T : Tables} {b : Board} (hb : SrcOK b) {m : Move}
    (h : b.legal T m = true) : (b.makeMoveNew T m).isSome = true := by
  rw [makeMoveNew_isSome_iff, pieceOn_isSome]
  have hm := (Entries.mem_legalMoves_cases T b m).mp ((Entries.legal_query_iff T b m).mp h)
  split at hm
  · exact src_occupied_of_isMove hb hm
  · split at hm
    · exact src_occupied_of_isMove hb hm
    · exact hm.1 ▸ hb.covered .king _ (BB.getLsbD_toSq _ hb.king)

theorem SrcOK_of_isSane {T : Tables} {b : Board} (h : b.isSane T = true) : SrcOK b := by
  unfold isSane at h
  simp only [Bool.and_eq_true] at h
  obtain ⟨⟨⟨⟨⟨⟨⟨⟨⟨_, _⟩, hc⟩, hkw⟩, hkb⟩, _⟩, _⟩, _⟩, _⟩, _⟩ := h
  constructor
  · intro p i hp
    rw [BitVec.getLsbD_and, Bool.and_eq_true] at hp
    rw [← eq_of_beq hc, BB.getLsbD_foldl_or, Bool.or_eq_true, List.any_eq_true]
    exact .inr ⟨p, by cases p <;> decide, hp.1⟩
  · intro h0
    cases hs : b.stm <;> rw [hs] at h0
    · rw [show b.kings &&& b.white = 0#64 from h0, BB.popcnt_zero] at hkw
      cases hkw
    · rw [show b.kings &&& b.black = 0#64 from h0, BB.popcnt_zero] at hkb
      cases hkb

end Board

namespace Game

/-- no panic: if every position the log passes through has its own pieces recorded in `combined`
and a king for the side to move (e.g. is sane), a log satisfying `LogOK` replays without panic -/
theorem LogOK_currentPosition_isSome_of_srcOK {T : Tables} {g : Game} (h : LogOK T g)
    (hs : ∀ k cur, currentPosition T ⟨g.startPos, g.moves.take k⟩ = some cur → Board.SrcOK cur) :
    (g.currentPosition T).isSome :=
  LogOK_currentPosition_isSome h fun k cur _ hc hl => Board.legal_makeMove_some (hs k cur hc) hl

end Game
end Chess
