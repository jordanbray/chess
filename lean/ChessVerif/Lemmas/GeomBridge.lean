import ChessVerif.Lemmas.GeomBridge1
import ChessVerif.Lemmas.GeomBridge2
import ChessVerif.Lemmas.GeomBridge3
import ChessVerif.Lemmas.GeomBridge4
import ChessVerif.Lemmas.GeomBridge5
import ChessVerif.Lemmas.GeomBridge6
import ChessVerif.Lemmas.GeomBridge7
/-
Board geometry: the `Geom` bitboards and the coordinate / direction predicates of `Spec/Rules.lean`, all
in terms of one notion, `PinCheck.At o u i z` ("`z` is `i` steps from `o` along direction `u`", `i` an
integer): table membership (1), directions, rays and walks (2), betweenness (3),
alignment and slider attacks (4), leapers (5), lines (6), the stepping helpers of `square.rs` (7).
Import this file.
-/
namespace Chess

/-! sanity checks on concrete values (e1 = 4, e4 = 28, e8 = 60, h1 = 7, a1 = 0, h8 = 63) -/

example : strictlyBetween 4 28 60 = true := by decide
example : (Geom.between 4 60).getLsbD (28 : Sq).val = true := by rw [mem_between]; decide
example : aligned rookDirs 4 60 = true ∧ aligned bishopDirs 0 63 = true ∧ aligned allDirs 0 10 = false := by
  decide
/-- a rook on e1 with a blocker on e4 reaches e4 but not e5 -/
example : (Geom.rookWalk 4 (BB.ofSq 28)).getLsbD (28 : Sq).val = true ∧
    (Geom.rookWalk 4 (BB.ofSq 28)).getLsbD (36 : Sq).val = false := by decide

end Chess
