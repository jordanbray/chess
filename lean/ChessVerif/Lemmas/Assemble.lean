import ChessVerif.Lemmas.Entries
import ChessVerif.Lemmas.PseudoBits
import ChessVerif.Lemmas.CheckPin
import ChessVerif.Lemmas.PinCheck
import ChessVerif.Lemmas.GeomBridge
/-!
# C01, assembled: moves of a man other than the king, not en passant

The generator's destination sets (`Entries.dests`) are the pseudo-legal destination sets
(`MoveGen.pseudoLegals`, related to the specification by `PseudoBits.pseudoLegals_iff`) cut down by a
pin / check filter (`filt` below).  On a board whose cached `checkers` / `pinned` are exact
(`CheckPin.checkers_exact`, `CheckPin.pinned_exact` with `Board.PinOK`) that filter is exactly the
condition of `PinCheck.Ctx.no_check` / `single_check`, and with two checkers nothing is generated and
nothing is legal (`double_check`).
-/
namespace Chess
namespace Assemble

open Entries MoveGen PseudoBits CheckPin PinCheck

theorem promoShape_iff_emit (b : Board) (pc : Piece) (m : Move) :
    PromoShape (promoFlag b pc m.src) m ↔ emitShape pc m.src b.stm m.promo := by
  -- the two sides are the same choice, under conditions that agree
  have hc : promoFlag b pc m.src = true ↔ pc = .pawn ∧ m.src.getRank = b.stm.seventhRank := by
    cases pc
    case pawn => exact decide_eq_true_iff.trans (and_iff_right rfl).symm
    all_goals exact iff_of_false Bool.false_ne_true fun h => by cases h.1
  unfold PromoShape emitShape
  simp only [hc]

/-! ### the pin / check filter of the generator -/

/-- what the per-piece `legals` intersects the pseudo-legal set of the man on `src` with: a man in
`pinned` keeps the line through itself and the king, and nothing at all in check; any other man keeps
the check mask -/
def filt (T : Tables) (b : Board) (ic : Bool) (src d : Sq) : Bool :=
  if b.pinned.getLsbD src.val then (!ic && (T.line src (b.kingSquare b.stm)).getLsbD d.val)
  else (checkMask T b ic).getLsbD d.val

theorem checkMask_false_bit (T : Tables) (b : Board) (d : Sq) : (checkMask T b false).getLsbD d.val = true := by
  unfold checkMask
  simp only [Bool.false_eq_true, if_false]
  exact getLsbD_allOnes _ d.isLt

theorem knight_off_line {src k d : Sq} (hk : (Geom.knight src).getLsbD d.val = true)
    (hl : (Geom.line src k).getLsbD d.val = true) : False := by
  obtain ⟨u, n, _, hx⟩ := (mem_line_iff src k d).mp hl
  rcases hx with rfl | ⟨j, hj⟩ | ⟨j, hj⟩
  · rw [mem_knight] at hk
    simp at hk
  · exact knight_not_aligned hk ((aligned_iff allDirs src d).mpr ⟨u, mem_allDirs u, j, hj⟩)
  · exact knight_not_aligned hk ((aligned_iff allDirs src d).mpr ⟨u.opp, mem_allDirs _, j, hj⟩)

/-- **the destination set of an entry** of a man other than the king: pseudo-legal set ∧ filter -/
theorem dests_bit {T : Tables} (hT : TablesOK T) (b : Board) (ic : Bool) {pc : Piece} (hpc : pc ≠ .king)
    (src d : Sq) :
    (dests T b ic pc src).getLsbD d.val =
      ((pseudoLegals T pc src b.stm b.combined (ownMask b)).getLsbD d.val && filt T b ic src d) := by
  -- bishop, rook, queen and pawn entries have one shape; the pawn's line is written `line(ksq, src)`
  have shape : ∀ P L : BB,
      (if b.pinned.getLsbD src.val = true then (if ic = true then 0#64 else P &&& L)
        else P &&& checkMask T b ic).getLsbD d.val =
      (P.getLsbD d.val && (if b.pinned.getLsbD src.val = true then (!ic && L.getLsbD d.val)
        else (checkMask T b ic).getLsbD d.val)) := by
    intro P L
    cases b.pinned.getLsbD src.val <;> cases ic <;> simp
  cases pc with
  | king => exact absurd rfl hpc
  | bishop | rook | queen => exact shape _ _
  | pawn =>
    unfold filt
    rw [hT.line, line_symm, ← hT.line]
    exact shape _ _
  | knight =>
    show (destsKnight T b ic src).getLsbD d.val = _
    unfold destsKnight filt
    cases hp : b.pinned.getLsbD src.val
    · simp only [Bool.false_eq_true, if_false]
      cases ic
      · simp only [Bool.false_eq_true, if_false]
        rw [checkMask_false_bit, Bool.and_true]
      · simp only [if_true]
        unfold pseudoLegals checkMask
        simp only [if_true, BitVec.getLsbD_and, Bool.and_assoc]
    · simp only [if_true, BitVec.getLsbD_zero]
      cases ic
      · simp only [Bool.not_false, Bool.true_and]
        cases hl : (T.line src (b.kingSquare b.stm)).getLsbD d.val
        · rw [Bool.and_false]
        · rw [Bool.and_true]
          cases hk : (pseudoLegals T .knight src b.stm b.combined (ownMask b)).getLsbD d.val
          · rfl
          · exfalso
            unfold pseudoLegals at hk
            simp only [BitVec.getLsbD_and, Bool.and_eq_true] at hk
            rw [hT.knight] at hk
            rw [hT.line] at hl
            exact knight_off_line hk.1 hl
      · simp only [Bool.not_true, Bool.false_and, Bool.and_false]

/-! ### the three check regimes -/

section Regimes
variable {b : Board}

theorem checkers_zero_iff (hC : ∀ x : Sq, b.checkers.getLsbD x.val = checkerSq b.abs x) :
    b.checkers = 0#64 ↔ ∀ x, checkerSq b.abs x = false := by
  rw [BB.eq_zero_iff]
  constructor
  · intro h x; rw [← hC]; exact h x
  · intro h x; rw [hC]; exact h x

/-- one bit in `checkers`: the square `checkers.to_square()` is the only checker -/
theorem single_checker (hC : ∀ x : Sq, b.checkers.getLsbD x.val = checkerSq b.abs x)
    (h1 : b.checkers.popcnt = 1) :
    checkerSq b.abs b.checkers.toSq = true ∧ ∀ y, checkerSq b.abs y = true → y = b.checkers.toSq := by
  constructor
  · rw [← hC, bit_of_popcnt_one h1]; exact decide_eq_true rfl
  · intro y hy
    rw [← hC, bit_of_popcnt_one h1, decide_eq_true_eq] at hy
    exact Fin.ext hy

theorem two_checkers (hC : ∀ x : Sq, b.checkers.getLsbD x.val = checkerSq b.abs x)
    (h0 : b.checkers ≠ 0#64) (h1 : b.checkers.popcnt ≠ 1) :
    ∃ x y, checkerSq b.abs x = true ∧ checkerSq b.abs y = true ∧ x ≠ y := by
  obtain ⟨x, hx⟩ := (BB.ne_zero_iff _).mp h0
  apply Classical.byContradiction
  intro hno
  refine h1 (popcnt_one_iff_bits.mpr fun z => ⟨fun hz => Classical.byContradiction fun hne => ?_, fun e => e ▸ hx⟩).1
  exact hno ⟨x, z, by rw [← hC]; exact hx, by rw [← hC]; exact hz, fun h => hne h.symm⟩

end Regimes

/-! ### the filter against the specification -/

section Filter
variable {T : Tables} {b : Board}

theorem pinned_bit_own (hP : ∀ y : Sq, (b.pinned &&& b.colorCombined b.stm).getLsbD y.val = pinnedSq b.abs y)
    (hs : Struct b) {src : Sq} {pc : Piece} (hsrc : b.content src = some (pc, b.stm)) :
    b.pinned.getLsbD src.val = pinnedSq b.abs src := by
  rw [← hP, BitVec.getLsbD_and]
  have : (b.colorCombined b.stm).getLsbD src.val = true := ((hs.content_some_iff src pc b.stm).mp hsrc).2
  rw [this, Bool.and_true]

/-- not in check: the filter is "not pinned, or the destination is on the line through the man and
the king" -/
theorem filt_noCheck_iff (hT : TablesOK T) (hs : Struct b)
    (hP : ∀ y : Sq, (b.pinned &&& b.colorCombined b.stm).getLsbD y.val = pinnedSq b.abs y)
    {src : Sq} {pc : Piece} (hsrc : b.content src = some (pc, b.stm)) (d : Sq) :
    filt T b false src d = true ↔
      (pinnedSq b.abs src = false ∨ (Geom.line src (b.kingSquare b.stm)).getLsbD d.val = true) := by
  unfold filt
  rw [pinned_bit_own hP hs hsrc, hT.line, checkMask_false_bit]
  cases pinnedSq b.abs src <;> simp

/-- the check mask with one checker `x`: `x` itself or a square strictly between `x` and the king -/
theorem checkMask_single_bit (hT : TablesOK T) (h1 : b.checkers.popcnt = 1) (d : Sq) :
    (checkMask T b true).getLsbD d.val = true ↔
      (d = b.checkers.toSq ∨ strictlyBetween b.checkers.toSq d (b.kingSquare b.stm) = true) := by
  unfold checkMask
  simp only [if_true]
  rw [BitVec.getLsbD_xor, hT.between, mem_between, bit_of_popcnt_one h1]
  by_cases hd : d = b.checkers.toSq
  · rw [← hd, strictlyBetween_irrefl_left]
    simp
  · have : ¬ d.val = b.checkers.toSq.val := fun h => hd (Fin.ext h)
    simp [hd, this]

/-- single check: the filter is "not pinned, and the destination captures the checker or
interposes" -/
theorem filt_singleCheck_iff (hT : TablesOK T) (hs : Struct b)
    (hP : ∀ y : Sq, (b.pinned &&& b.colorCombined b.stm).getLsbD y.val = pinnedSq b.abs y)
    (h1 : b.checkers.popcnt = 1)
    {src : Sq} {pc : Piece} (hsrc : b.content src = some (pc, b.stm)) (d : Sq) :
    filt T b true src d = true ↔
      (pinnedSq b.abs src = false ∧
        (d = b.checkers.toSq ∨ strictlyBetween b.checkers.toSq d (b.kingSquare b.stm) = true)) := by
  unfold filt
  rw [pinned_bit_own hP hs hsrc]
  cases pinnedSq b.abs src
  · simp only [Bool.false_eq_true, if_false, true_and]
    exact checkMask_single_bit hT h1 d
  · simp

end Filter

/-! ### the man on the source square -/

section Man
variable {b : Board}

theorem own_bit_iff (hs : Struct b) (pc : Piece) (s : Sq) :
    (own b pc).getLsbD s.val = true ↔ b.content s = some (pc, b.stm) := by
  unfold own
  rw [BitVec.getLsbD_and, Bool.and_eq_true, hs.content_some_iff]

theorem src_ne_king (hs : Struct b) (hk : (b.kings &&& b.colorCombined b.stm).popcnt = 1)
    {src : Sq} {pc : Piece} (hpc : pc ≠ .king) (hsrc : b.content src = some (pc, b.stm)) :
    src ≠ b.kingSquare b.stm := by
  intro h
  rw [h, content_kingSquare hs hk] at hsrc
  injection hsrc with h'
  injection h' with h''
  exact hpc h''.symm

theorem man_of_pseudoLegal (hs : Struct b) (hk : (b.kings &&& b.colorCombined b.stm).popcnt = 1)
    {m : Move} (hpl : pseudoLegal b.abs m = true) (hsrc : m.src ≠ b.kingSquare b.stm) :
    ∃ pc : Piece, pc ≠ .king ∧ b.content m.src = some (pc, b.stm) := by
  obtain ⟨pc, hc, _⟩ := pseudoLegal_src hpl
  refine ⟨pc, ?_, hc⟩
  rintro rfl
  exact hsrc ((kingAt hs hk m.src).mp hc)

end Man

/-! ### one entry -/

section Entry
variable {T : Tables} {b : Board}

/-- the cached fields are exact and the mover has one king: the working context -/
structure Exact (T : Tables) (b : Board) : Prop where
  tables : TablesOK T
  struct : Struct b
  oneKing : (b.kings &&& b.colorCombined b.stm).popcnt = 1
  checkers : ∀ x : Sq, b.checkers.getLsbD x.val = checkerSq b.abs x
  pinned : ∀ y : Sq, (b.pinned &&& b.colorCombined b.stm).getLsbD y.val = pinnedSq b.abs y

theorem Exact.of_PinOK (hT : TablesOK T) (hs : Struct b) (hk : (b.kings &&& b.colorCombined b.stm).popcnt = 1)
    (hkk : KingsApart b) (hp : b.PinOK T) : Exact T b where
  tables := hT
  struct := hs
  oneKing := hk
  checkers := hp.checkers_exact hT hs hk hkk
  pinned := hp.pinned_exact hT hs hk

theorem Exact.kingSq (h : Exact T b) : kingSq? b.abs b.abs.stm = some (b.kingSquare b.stm) :=
  kingSq?_abs h.struct h.oneKing

theorem Exact.ctx (h : Exact T b) {m : Move} (hpl : pseudoLegal b.abs m = true)
    (hsrc : m.src ≠ b.kingSquare b.stm) (hep : isEnPassant b.abs m = false) :
    Ctx b.abs m (b.kingSquare b.stm) :=
  Ctx.mk' (kingAt h.struct h.oneKing) hpl hsrc hep

/-- the check regime the generator works in: `ic = false` with no checker, or `ic = true` with one -/
def Regime (b : Board) (ic : Bool) : Prop :=
  (ic = false ∧ b.checkers = 0#64) ∨ (ic = true ∧ b.checkers.popcnt = 1)

/-- in the generator's regime, a pseudo-legal non-en-passant move of a man other than the king is legal
iff its destination passes the filter -/
theorem legal_iff_filt (h : Exact T b) {ic : Bool} (hr : Regime b ic) {pc : Piece} {m : Move}
    (hpc : pc ≠ .king) (hsrc : b.content m.src = some (pc, b.stm))
    (hpl : pseudoLegal b.abs m = true) (hep : isEnPassant b.abs m = false) :
    legal b.abs m = true ↔ filt T b ic m.src m.dst = true := by
  have hc := h.ctx hpl (src_ne_king h.struct h.oneKing hpc hsrc) hep
  rcases hr with ⟨rfl, h0⟩ | ⟨rfl, h1⟩
  · rw [filt_noCheck_iff h.tables h.struct h.pinned hsrc]
    exact hc.no_check hpl ((checkers_zero_iff h.checkers).mp h0)
  · rw [filt_singleCheck_iff h.tables h.struct h.pinned h1 hsrc]
    obtain ⟨hx, hu⟩ := single_checker h.checkers h1
    exact hc.single_check hpl hx hu

/-- **one entry**: for the man of kind `pc ≠ king` on `m.src`, the destination bit of its entry together
with the emitted promotion shape is exactly "legal and not en passant" -/
theorem dests_iff_legal (h : Exact T b) {ic : Bool} (hr : Regime b ic) {pc : Piece} {m : Move}
    (hpc : pc ≠ .king) (hsrc : b.content m.src = some (pc, b.stm)) :
    ((dests T b ic pc m.src).getLsbD m.dst.val = true ∧ PromoShape (promoFlag b pc m.src) m) ↔
      (legal b.abs m = true ∧ isEnPassant b.abs m = false) := by
  have hpi := pseudoLegals_iff h.tables h.struct hpc hsrc m.dst m.promo
  have hm : (⟨m.src, m.dst, m.promo⟩ : Move) = m := rfl
  rw [hm] at hpi
  rw [dests_bit h.tables b ic hpc, Bool.and_eq_true, promoShape_iff_emit]
  constructor
  · rintro ⟨⟨h1, h2⟩, h3⟩
    obtain ⟨hpl, hep⟩ := hpi.mp ⟨h1, h3⟩
    exact ⟨(legal_iff_filt h hr hpc hsrc hpl hep).mpr h2, hep⟩
  · rintro ⟨hl, hep⟩
    have hpl := Closure.legal_pseudo hl
    obtain ⟨h1, h3⟩ := hpi.mpr ⟨hpl, hep⟩
    exact ⟨⟨h1, (legal_iff_filt h hr hpc hsrc hpl hep).mp hl⟩, h3⟩

end Entry

/-! ### the move list -/

section MoveList
variable {T : Tables} {b : Board}

/-- the first disjunct of `Entries.IsMove`: `m` is a move of the ordinary entry of a man other than the
king -/
def IsOrdinary (T : Tables) (b : Board) (ic : Bool) (m : Move) : Prop :=
  ∃ p : Piece, p ≠ .king ∧ (own b p).getLsbD m.src.val = true ∧
    (dests T b ic p m.src).getLsbD m.dst.val = true ∧ PromoShape (promoFlag b p m.src) m

/-- the second disjunct of `Entries.IsMove`: `m` is the move of an en-passant entry -/
def IsEpMove (T : Tables) (b : Board) (m : Move) : Prop :=
  ∃ epSq : Sq, b.ep = some epSq ∧ (epSources T b epSq).getLsbD m.src.val = true ∧
    legalEpMove T b m.src (epDest b epSq) = some true ∧ m.dst = epDest b epSq ∧ m.promo = none

def EpGenOK (T : Tables) (b : Board) : Prop := ∀ m : Move, IsEpMove T b m → isEnPassant b.abs m = true

/-- `EpGenOK` from the one fact that needs validity: the square behind the marked pawn is empty -/
theorem epGenOK_of_empty (hT : TablesOK T) (hs : Struct b)
    (hemp : ∀ epSq, b.ep = some epSq → b.abs.empty (epDest b epSq) = true) : EpGenOK T b := by
  rintro m ⟨q, hq, h1, _, hd, _⟩
  unfold epSources at h1
  simp only [BitVec.getLsbD_and, Bool.and_eq_true] at h1
  obtain ⟨⟨_, hf⟩, ho⟩ := h1
  have hc := (own_bit_iff hs .pawn m.src).mp ho
  rw [hT.adjFiles, mem_adjFiles, Sq.getFile_val] at hf
  unfold isEnPassant
  rw [abs_board, hc, hd, hemp q hq]
  have hfile : (epDest b q).file = q.file := Sq.uforward_file q b.stm
  simp only [Bool.true_and, Bool.and_true, bne_iff_ne, ne_eq, hfile]
  intro heq
  rw [heq] at hf
  simp at hf

theorem isOrdinary_iff (h : Exact T b) {ic : Bool} (hr : Regime b ic) (m : Move) :
    IsOrdinary T b ic m ↔
      (m.src ≠ b.kingSquare b.stm ∧ legal b.abs m = true ∧ isEnPassant b.abs m = false) := by
  constructor
  · rintro ⟨pc, hpc, ho, hd, hpr⟩
    have hsrc := (own_bit_iff h.struct pc m.src).mp ho
    exact ⟨src_ne_king h.struct h.oneKing hpc hsrc, (dests_iff_legal h hr hpc hsrc).mp ⟨hd, hpr⟩⟩
  · rintro ⟨hk, hl, hep⟩
    obtain ⟨pc, hpc, hsrc⟩ := man_of_pseudoLegal h.struct h.oneKing (Closure.legal_pseudo hl) hk
    obtain ⟨hd, hpr⟩ := (dests_iff_legal h hr hpc hsrc).mpr ⟨hl, hep⟩
    exact ⟨pc, hpc, (own_bit_iff h.struct pc m.src).mpr hsrc, hd, hpr⟩

theorem double_check_illegal (h : Exact T b) (h0 : b.checkers ≠ 0#64) (h1 : b.checkers.popcnt ≠ 1)
    {m : Move} (hsrc : m.src ≠ b.kingSquare b.stm) (hep : isEnPassant b.abs m = false) :
    legal b.abs m = false := by
  cases hl : legal b.abs m with
  | false => rfl
  | true =>
    have hpl := Closure.legal_pseudo hl
    obtain ⟨x, y, hx, hy, hne⟩ := two_checkers h.checkers h0 h1
    rw [← hl]
    exact (h.ctx hpl hsrc hep).double_check hpl hx hy hne

/-- **the non-king, non-en-passant part of C01** -/
theorem nonking_exact (h : Exact T b) (hepgen : EpGenOK T b) (m : Move)
    (hsrc : m.src ≠ b.kingSquare b.stm) (hep : isEnPassant b.abs m = false) :
    m ∈ b.legalMoves T ↔ legal b.abs m = true := by
  rw [mem_legalMoves_cases]
  have key : ∀ ic, Regime b ic → (IsMove T b ic m ↔ legal b.abs m = true) := by
    intro ic hr
    constructor
    · rintro (ho | he | ⟨hk, _⟩)
      · exact ((isOrdinary_iff h hr m).mp ho).2.1
      · have := hepgen m he
        rw [hep] at this; cases this
      · exact absurd hk hsrc
    · intro hl
      exact Or.inl ((isOrdinary_iff h hr m).mpr ⟨hsrc, hl, hep⟩)
  by_cases h0 : b.checkers = 0#64
  · rw [if_pos h0]
    exact key false (Or.inl ⟨rfl, h0⟩)
  · rw [if_neg h0]
    by_cases h1 : b.checkers.popcnt = 1
    · rw [if_pos h1]
      exact key true (Or.inr ⟨rfl, h1⟩)
    · rw [if_neg h1, double_check_illegal h h0 h1 hsrc hep]
      constructor
      · rintro ⟨hk, _⟩; exact absurd hk hsrc
      · intro hf; cases hf

end MoveList

end Assemble
end Chess
