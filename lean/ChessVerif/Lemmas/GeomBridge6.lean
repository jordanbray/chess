import ChessVerif.Lemmas.GeomBridge5
/-
Geometry, part 6: `Geom.line a b` is the set of squares at integer positions of the line through `a`
and `b`; in terms of rays and of betweenness.
-/
namespace Chess
open PinCheck

theorem mem_line_aligned (a b x : Sq) : (Geom.line a b).getLsbD x.val =
    (aligned allDirs a b &&
      (x.file - a.file) * (b.rank - a.rank) == (x.rank - a.rank) * (b.file - a.file)) := by
  rw [mem_line]
  congr 1
  rw [Bool.eq_iff_iff, aligned_all_iff]
  simp only [Bool.and_eq_true, Bool.or_eq_true, bne_iff_ne, ne_eq, beq_iff_eq]
  exact and_congr_right fun _ => by omega

theorem line_aligned {a b x : Sq} (h : (Geom.line a b).getLsbD x.val = true) :
    aligned allDirs a b = true := by
  rw [mem_line_aligned, Bool.and_eq_true] at h
  exact h.1

theorem mem_line_of_At {a b x : Sq} {u : Dir} {n i : Int} (hn : n ≠ 0) (hb : At a u n b)
    (hx : At a u i x) : (Geom.line a b).getLsbD x.val = true := by
  have hal : aligned allDirs a b = true := by
    rw [aligned_iff_At]
    rcases Int.lt_or_gt_of_ne hn with h | h
    · exact ⟨u.opp, mem_allDirs _, -n, by omega, hb.opp⟩
    · exact ⟨u, mem_allDirs _, n, h, hb⟩
  rw [mem_line_aligned, hal, Bool.true_and, beq_iff_eq,
    show x.file - a.file = i * u.df by have := hx.1; omega,
    show b.rank - a.rank = n * u.dr by have := hb.2; omega,
    show x.rank - a.rank = i * u.dr by have := hx.2; omega,
    show b.file - a.file = n * u.df by have := hb.1; omega]
  ac_rfl

theorem At_of_mem_line {a b x : Sq} {u : Dir} {n : Int} (hn : n ≠ 0) (hb : At a u n b)
    (hx : (Geom.line a b).getLsbD x.val = true) : ∃ i : Int, At a u i x := by
  rw [mem_line_aligned, Bool.and_eq_true, beq_iff_eq,
    show b.rank - a.rank = n * u.dr by have := hb.2; omega,
    show b.file - a.file = n * u.df by have := hb.1; omega] at hx
  obtain ⟨i, h1, h2⟩ := collinear_dir hn hx.2
  exact ⟨i, by omega, by omega⟩

theorem mem_line_left {a b : Sq} (h : aligned allDirs a b = true) :
    (Geom.line a b).getLsbD a.val = true := by
  obtain ⟨u, _, n, hn, hb⟩ := (aligned_iff_At _ a b).mp h
  exact mem_line_of_At (Int.ne_of_gt hn) hb (At.zero a u)

theorem mem_line_right {a b : Sq} (h : aligned allDirs a b = true) :
    (Geom.line a b).getLsbD b.val = true := by
  obtain ⟨u, _, n, hn, hb⟩ := (aligned_iff_At _ a b).mp h
  exact mem_line_of_At (Int.ne_of_gt hn) hb hb

theorem between_subset_line {a b x : Sq} (h : (Geom.between a b).getLsbD x.val = true) :
    (Geom.line a b).getLsbD x.val = true := by
  rw [mem_between] at h
  obtain ⟨u, n, t, ht, htn, hb, hx⟩ := At_of_sb h
  exact mem_line_of_At (by omega) hb hx

/-- the line through `a` and `b` (`b` being `n` steps from `a` along `u`): `a`, the ray from `a`
along `u`, and the opposite ray -/
theorem mem_line_iff (a b x : Sq) : (Geom.line a b).getLsbD x.val = true ↔
    ∃ u n, onRay a u n b = true ∧
      (x = a ∨ (∃ k, onRay a u k x = true) ∨ (∃ k, onRay a u.opp k x = true)) := by
  constructor
  · intro h
    obtain ⟨u, _, n, hn, hb⟩ := (aligned_iff_At _ a b).mp (line_aligned h)
    obtain ⟨i, hx⟩ := At_of_mem_line (Int.ne_of_gt hn) hb h
    refine ⟨u, n.toNat, onRay_of_At hn hb, ?_⟩
    rcases Int.lt_trichotomy i 0 with hi | rfl | hi
    · exact Or.inr (Or.inr ⟨_, onRay_of_At (by omega) hx.opp⟩)
    · exact Or.inl (At.ext hx (At.zero a u))
    · exact Or.inr (Or.inl ⟨_, onRay_of_At hi hx⟩)
  · rintro ⟨u, n, hn, hx⟩
    obtain ⟨hn, hb⟩ := (onRay_iff a u n b).mp hn
    rcases hx with rfl | ⟨k, hk⟩ | ⟨k, hk⟩
    · exact mem_line_of_At (by omega) hb (At.zero x u)
    · exact mem_line_of_At (by omega) hb ((onRay_iff a u k x).mp hk).2
    · have := At.opp ((onRay_iff a u.opp k x).mp hk).2
      rw [Dir.opp_opp] at this
      exact mem_line_of_At (by omega) hb this

/-- the line through two aligned squares: the two squares, the squares between them, and the squares
beyond either end; empty if the squares are not aligned -/
theorem mem_line_iff_between (a b x : Sq) : (Geom.line a b).getLsbD x.val = true ↔
    aligned allDirs a b = true ∧
      (x = a ∨ x = b ∨ strictlyBetween a x b = true ∨ strictlyBetween x a b = true ∨
        strictlyBetween a b x = true) := by
  constructor
  · intro h
    have hal := line_aligned h
    obtain ⟨u, _, n, hn, hb⟩ := (aligned_iff_At _ a b).mp hal
    obtain ⟨i, hx⟩ := At_of_mem_line (Int.ne_of_gt hn) hb h
    have ha := At.zero a u
    refine ⟨hal, ?_⟩
    rcases Int.lt_trichotomy i 0 with hi | rfl | hi
    · exact Or.inr (Or.inr (Or.inr (Or.inl (sb_of_At_lt hx ha hb hi hn))))
    · exact Or.inl (At.ext hx ha)
    · rcases Int.lt_trichotomy i n with hi' | rfl | hi'
      · exact Or.inr (Or.inr (Or.inl (sb_of_At_lt ha hx hb hi hi')))
      · exact Or.inr (Or.inl (At.ext hx hb))
      · exact Or.inr (Or.inr (Or.inr (Or.inr (sb_of_At_lt ha hb hx hn hi'))))
  · rintro ⟨hal, rfl | rfl | h | h | h⟩
    · exact mem_line_left hal
    · exact mem_line_right hal
    · exact between_subset_line ((mem_between a b x).trans h)
    · obtain ⟨u, n, t, ht, htn, hb, ha⟩ := At_of_sb h
      exact mem_line_of_At (by omega) (ha.shift hb) (ha.shift (At.zero x u))
    · obtain ⟨u, n, t, ht, htn, hx, hb⟩ := At_of_sb h
      exact mem_line_of_At (by omega) hb hx

theorem line_symm (a b : Sq) : Geom.line a b = Geom.line b a := by
  have key : ∀ a b x : Sq, (Geom.line a b).getLsbD x.val = true → (Geom.line b a).getLsbD x.val = true := by
    intro a b x h
    obtain ⟨u, _, n, hn, hb⟩ := (aligned_iff_At _ a b).mp (line_aligned h)
    obtain ⟨i, hx⟩ := At_of_mem_line (Int.ne_of_gt hn) hb h
    exact mem_line_of_At (by omega) (hb.shift (At.zero a u)) (hb.shift hx)
  exact BB.ext fun x => Bool.eq_iff_iff.mpr ⟨key a b x, key b a x⟩

end Chess
