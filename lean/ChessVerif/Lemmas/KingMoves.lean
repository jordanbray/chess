import ChessVerif.Lemmas.GeomBridge
import ChessVerif.Lemmas.PinCheck3
import ChessVerif.Lemmas.Closure
import ChessVerif.Lemmas.MoveSpec
import ChessVerif.Lemmas.CheckPin
import ChessVerif.Lemmas.PseudoBits1
import ChessVerif.Lemmas.Entries
/-!
# The king part of C01: `legal_king_move`, king steps, castling, the king's destination set

* `legalKingMove_iff` — `KingType::legal_king_move(board, d)` says exactly that `d` is not attacked by
  the enemy once the mover's king is lifted off its square and put on `d`;
* `king_step_legal_iff` — for a king-step destination not holding an own man this is FIDE legality of
  the king step;
* `castle_iff` — the code's castling test, for either side, is FIDE legality of the castling move;
* `destsKing_iff` — the destination set pushed by `KingType::legals` is exactly the set of legal king
  moves.
-/
namespace Chess
namespace KingMoves

open PinCheck

/-! ### kings and attacks in positions that differ on a few squares -/

theorem inCheck_eq {p : Pos} {c : Color} {k : Sq} (hK : KingAt p c k) :
    inCheck p c = attackedBy p c.other k := by
  unfold inCheck; rw [kingSq?_of_KingAt hK]

theorem _root_.Chess.PinCheck.KingAt.move {p q : Pos} {c : Color} {k t : Sq} (hK : KingAt p c k)
    (ht : q.board t = some (.king, c))
    (h : ∀ s, s ≠ t → q.board s = some (.king, c) → s ≠ k ∧ p.board s = some (.king, c)) : KingAt q c t := by
  intro s
  refine ⟨fun hs => Classical.byContradiction fun hne => ?_, fun e => e ▸ ht⟩
  obtain ⟨h1, h2⟩ := h s hne hs
  exact h1 ((hK s).mp h2)

theorem attackedBy_iff (p : Pos) (c : Color) (t : Sq) :
    attackedBy p c t = true ↔ ∃ x, p.colorAt x = some c ∧ attacks p x t = true := by
  unfold attackedBy
  rw [allSq_any]
  simp only [Bool.and_eq_true, beq_iff_eq]

theorem attacks_mono {q q' : Pos} {x t : Sq} (hb : q'.board x = q.board x)
    (hp : ∀ z, strictlyBetween x z t = true → q.empty z = true → q'.empty z = true)
    (h : attacks q x t = true) : attacks q' x t = true := by
  rw [attacks_eq] at h ⊢
  rw [hb]
  simp only [Bool.or_eq_true, Bool.and_eq_true, pathClear_iff] at h ⊢
  exact h.imp (fun ⟨h1, h2⟩ => ⟨h1, fun z hz => hp z hz (h2 z hz)⟩) id

theorem attackedBy_mono {q q' : Pos} {c : Color} {t : Sq}
    (h : ∀ x, q.colorAt x = some c → attacks q x t = true →
      q'.board x = q.board x ∧ ∀ z, strictlyBetween x z t = true → q.empty z = true → q'.empty z = true)
    (hf : attackedBy q' c t = false) : attackedBy q c t = false := by
  rw [← Bool.not_eq_true, attackedBy_iff] at hf ⊢
  rintro ⟨x, hx, hatt⟩
  obtain ⟨hb, hp⟩ := h x hx hatt
  exact hf ⟨x, by unfold Pos.colorAt at hx ⊢; rw [hb]; exact hx, attacks_mono hb hp hatt⟩

theorem sliderAligned_between {bd : Option (Piece × Color)} {x k d : Sq} (h : sliderAligned bd x d = true)
    (hb : strictlyBetween x k d = true) : sliderAligned bd x k = true := by
  unfold sliderAligned at h ⊢
  rcases bd with _ | ⟨pc, c⟩
  · cases h
  · cases pc <;> simp only at h ⊢ <;> first | exact (strictlyBetween_aligned_ds hb h).1 | cases h

/-! ### the position with the king lifted and put on `d` -/

/-- `p` with the man on `k` (the mover's king) lifted off the board and a king of the side to move
standing on `d`: `d ↦ king`, `k ↦ empty`, every other square as in `p` -/
def kingOn (p : Pos) (k d : Sq) : Pos :=
  { p with board := fun s => if s = d then some (.king, p.stm) else if s = k then none else p.board s }

theorem kingOn_board (p : Pos) (k d s : Sq) :
    (kingOn p k d).board s = if s = d then some (.king, p.stm) else if s = k then none else p.board s := rfl

theorem kingOn_colorAt (p : Pos) (k d x : Sq) :
    (kingOn p k d).colorAt x = if x = d then some p.stm else if x = k then none else p.colorAt x := by
  unfold Pos.colorAt
  rw [kingOn_board]
  split
  · rfl
  · split <;> rfl

theorem kingOn_empty (p : Pos) (k d z : Sq) :
    (kingOn p k d).empty z = true ↔ z ≠ d ∧ (z = k ∨ p.empty z = true) := by
  unfold Pos.empty
  rw [kingOn_board]
  by_cases hd : z = d
  · simp [hd]
  · by_cases hk : z = k
    · simp [hk]
    · simp [hd, hk]

theorem kingOn_kingAt {p : Pos} {k : Sq} (hK : KingAt p p.stm k) (d : Sq) : KingAt (kingOn p k d) p.stm d :=
  hK.move (by rw [kingOn_board, if_pos rfl]) fun s hne hs => by
    rw [kingOn_board, if_neg hne] at hs
    split at hs
    · cases hs
    · exact ⟨‹_›, hs⟩

theorem other_beq (c : Color) : (some c == some c.other) = false := by cases c <;> rfl

theorem kingOn_enemy_board {p : Pos} {k d x : Sq} (hx : (kingOn p k d).colorAt x = some p.stm.other) :
    x ≠ d ∧ p.colorAt x = some p.stm.other ∧ (kingOn p k d).board x = p.board x := by
  rw [kingOn_colorAt] at hx
  rw [kingOn_board]
  split at hx
  · exact absurd (Option.some.inj hx).symm (Color.other_ne p.stm)
  · split at hx
    · cases hx
    · exact ⟨‹_›, hx, by rw [if_neg ‹_›, if_neg ‹_›]⟩

/-- an attack on an empty square `d` persists when the king is lifted and put on `d`: a square safe for the
lifted king is safe in the position -/
theorem safe_of_safe_lifted {p : Pos} {k d : Sq} (hK : KingAt p p.stm k) (hd : p.board d = none)
    (hf : attackedBy (kingOn p k d) p.stm.other d = false) : attackedBy p p.stm.other d = false := by
  refine attackedBy_mono (fun x hx _ => ?_) hf
  have hxd : x ≠ d := by
    intro h; rw [h] at hx; unfold Pos.colorAt at hx; rw [hd] at hx; cases hx
  have hxk : x ≠ k := ne_of_colorAt_other (colorAt_of_board ((hK k).mpr rfl)) hx
  refine ⟨by rw [kingOn_board, if_neg hxd, if_neg hxk], fun z hz he => ?_⟩
  rw [kingOn_empty]
  exact ⟨strictlyBetween_ne_right hz, Or.inr he⟩

/-- with the king not in check, lifting it opens no new attack: a square safe in the position is safe for
the king lifted and put on it -/
theorem safe_lifted_of_safe {p : Pos} {k d : Sq} (hK : KingAt p p.stm k)
    (hnc : attackedBy p p.stm.other k = false)
    (hf : attackedBy p p.stm.other d = false) : attackedBy (kingOn p k d) p.stm.other d = false := by
  refine attackedBy_mono (fun x hx hatt => ?_) hf
  obtain ⟨_, hxp, hbx⟩ := kingOn_enemy_board hx
  refine ⟨hbx.symm, fun z hz he => ?_⟩
  rw [kingOn_empty] at he
  rcases he.2 with hzk | he
  · exfalso
    subst hzk
    -- the king is strictly between the attacker and `d`: the attacker is a slider giving check
    rw [attacks_eq, hbx] at hatt
    simp only [Bool.or_eq_true, Bool.and_eq_true, pathClear_iff] at hatt
    rcases hatt with ⟨h1, h2⟩ | h3
    · rw [← Bool.not_eq_true, attackedBy_iff] at hnc
      refine hnc ⟨x, hxp, ?_⟩
      rw [attacks_eq]
      simp only [Bool.or_eq_true, Bool.and_eq_true, pathClear_iff]
      refine Or.inl ⟨sliderAligned_between h1 hz, fun w hw => ?_⟩
      exact ((kingOn_empty p z d w).mp (h2 w (strictlyBetween_trans hz hw))).2.resolve_left
        (strictlyBetween_ne_right hw)
    · exact leaper_no_between h3 hz
  · exact he

/-! ### the occupancy and the attacker set of `legal_king_move` -/

/-- `board.combined() ^ (kings & mine) | from_square(dest)` -/
def kingOcc (b : Board) (d : Sq) : BB :=
  (b.combined ^^^ (b.kings &&& b.colorCombined b.stm)) ||| BB.ofSq d

/-- the attacker set computed by `legal_king_move` -/
def attackersBB (T : Tables) (b : Board) (d : Sq) : BB :=
  let them := b.colorCombined b.stm.other
  (((T.rookMoves d (kingOcc b d) &&& ((b.pieces .rook ||| b.pieces .queen) &&& them)) |||
    (T.bishopMoves d (kingOcc b d) &&& ((b.pieces .bishop ||| b.pieces .queen) &&& them))) |||
    (T.knight d &&& b.pieces .knight &&& them) |||
    (T.king d &&& b.pieces .king &&& them)) |||
    Board.pawnAttacks T d b.stm (b.pieces .pawn &&& them)

theorem legalKingMove_eq (T : Tables) (b : Board) (d : Sq) :
    MoveGen.legalKingMove T b d = (attackersBB T b d == 0#64) := rfl

def OneKing (b : Board) : Prop := (b.kings &&& b.colorCombined b.stm).popcnt = 1

theorem OneKing.kingAt {b : Board} (hs : Struct b) (h : OneKing b) :
    KingAt b.abs b.stm (b.kingSquare b.stm) := CheckPin.kingAt hs h

theorem OneKing.board_king {b : Board} (hs : Struct b) (h : OneKing b) :
    b.abs.board (b.kingSquare b.stm) = some (.king, b.stm) := (h.kingAt hs _).mpr rfl

theorem kingOcc_has {b : Board} (hs : Struct b) (h1 : OneKing b) (d z : Sq) :
    (kingOcc b d).has z = !(kingOn b.abs (b.kingSquare b.stm) d).empty z := by
  have hocc := PseudoBits.occ_bridge hs z
  have hk : (b.kings &&& b.colorCombined b.stm).getLsbD z.val = decide (z = b.kingSquare b.stm) :=
    Bool.eq_iff_iff.mpr ((CheckPin.kingSquare_bit h1 z).trans decide_eq_true_iff.symm)
  unfold kingOcc BB.has Pos.empty at *
  rw [BitVec.getLsbD_or, BitVec.getLsbD_xor, hk, BB.getLsbD_ofSq_val, kingOn_board, hocc]
  by_cases hd : z = d
  · simp [hd]
  · by_cases hz : z = b.kingSquare b.stm
    · subst hz; simp [hd, h1.board_king hs]
    · simp [hd, hz]

theorem walk_slides (ds : List Dir) (hds : ∀ u ∈ ds, u.opp ∈ ds) (q : Pos) (occ : BB)
    (hocc : ∀ z, occ.has z = !q.empty z) (k x : Sq) :
    (Geom.sliderWalk ds k occ).getLsbD x.val = slides ds q x k := by
  rw [mem_sliderWalk_symm ds hds, mem_sliderWalk_slides ds q occ hocc]

theorem slides_allDirs (p : Pos) (a b : Sq) :
    slides allDirs p a b = (slides rookDirs p a b || slides bishopDirs p a b) := by
  unfold slides
  rw [aligned_allDirs]
  cases aligned rookDirs a b <;> cases aligned bishopDirs a b <;> cases pathClear p a b <;> rfl

theorem slides_self (ds : List Dir) (p : Pos) (a : Sq) : slides ds p a a = false := by
  unfold slides; rw [aligned_irrefl]; rfl

theorem kingOn_enemy {b : Board} (hs : Struct b) (h1 : OneKing b) (d x : Sq) :
    ((kingOn b.abs (b.kingSquare b.stm) d).colorAt x == some b.stm.other) =
      (decide (x ≠ d) && (b.colorCombined b.stm.other).getLsbD x.val) := by
  have hc : (b.abs.colorAt x == some b.stm.other) = (b.colorCombined b.stm.other).getLsbD x.val :=
    Bool.eq_iff_iff.mpr (beq_iff_eq.trans (PseudoBits.colorAt_iff_cbit hs x _))
  rw [kingOn_colorAt]
  by_cases hd : x = d
  · rw [if_pos hd, decide_eq_false (not_not_intro hd), Bool.false_and]; exact other_beq b.stm
  · rw [if_neg hd, decide_eq_true hd, Bool.true_and, ← hc]
    split
    · next hk => rw [hk, colorAt_of_board (h1.board_king hs)]; exact (other_beq b.stm).symm
    · rfl

theorem attackers_bit {T : Tables} (hT : TablesOK T) {b : Board} (hs : Struct b) (h1 : OneKing b) (d x : Sq) :
    (attackersBB T b d).getLsbD x.val =
      ((kingOn b.abs (b.kingSquare b.stm) d).colorAt x == some b.stm.other &&
        attacks (kingOn b.abs (b.kingSquare b.stm) d) x d) := by
  have hw := fun ds hds => walk_slides ds hds _ _ (kingOcc_has hs h1 d) d x
  have hr : (Geom.rookWalk d (kingOcc b d)).getLsbD x.val = _ := hw rookDirs fun _ => Dir.opp_mem_rookDirs
  have hb : (Geom.bishopWalk d (kingOcc b d)).getLsbD x.val = _ := hw bishopDirs fun _ => Dir.opp_mem_bishopDirs
  unfold attackersBB Board.pawnAttacks
  simp only [BitVec.getLsbD_or, BitVec.getLsbD_and, hT.rookMoves, hT.bishopMoves, hT.knight, hT.king,
    hT.pawnAttacks, hr, hb, kingOn_enemy hs h1]
  by_cases hd : x = d
  · subst hd
    simp only [slides_self, mem_king, mem_knight, mem_pawnAttacks]
    simp
  · rw [decide_eq_true hd, Bool.true_and]
    cases hc : b.content x with
    | none =>
      simp only [(CheckPin.bits_of_content_none hs hc).2.1, Bool.and_false, Bool.false_and, Bool.or_false]
    | some v =>
      obtain ⟨pc, c⟩ := v
      obtain ⟨hp, hcc, _⟩ := CheckPin.bits_of_content_some hs hc
      simp only [hp, hcc]
      by_cases hce : b.stm.other = c
      · subst hce
        have hk : x ≠ b.kingSquare b.stm := fun hk => by
          rw [hk, ← abs_board, h1.board_king hs] at hc
          exact Color.other_ne b.stm (Prod.mk.inj (Option.some.inj hc)).2.symm
        unfold attacks
        rw [kingOn_board, if_neg hd, if_neg hk, abs_board, hc]
        cases pc <;>
          simp only [reduceCtorEq, decide_true, decide_false, Bool.and_true, Bool.and_false, Bool.or_false,
            Bool.false_or, Bool.or_self, Bool.or_true, Bool.true_and]
        · rw [mem_pawnAttacks_symm, mem_pawnAttacks]
        · rw [mem_knight_symm, mem_knight]
        · exact (slides_allDirs _ _ _).symm
        · rw [mem_king_symm, mem_king_spec]
      · simp [hce]

/-- **`legal_king_move` is exact**: `legal_king_move(board, d)` holds iff no enemy man attacks `d` in
the position where the mover's king has been lifted off its square and stands on `d` -/
theorem legalKingMove_iff {T : Tables} (hT : TablesOK T) {b : Board} (hs : Struct b) (h1 : OneKing b) (d : Sq) :
    MoveGen.legalKingMove T b d = true ↔
      attackedBy (kingOn b.abs (b.kingSquare b.stm) d) b.stm.other d = false := by
  rw [legalKingMove_eq, beq_iff_eq, BB.eq_zero_iff, ← Bool.not_eq_true, attackedBy_iff, not_exists]
  refine forall_congr' fun x => ?_
  rw [attackers_bit hT hs h1, ← Bool.not_eq_true, Bool.and_eq_true, beq_iff_eq]

theorem pseudoLegal_king_eq {p : Pos} {k : Sq} (hbk : p.board k = some (.king, p.stm)) (d : Sq) :
    pseudoLegal p ⟨k, d, none⟩ =
      (p.colorAt d != some p.stm && (attacks p k d || Closure.castleOk p ⟨k, d, none⟩ p.stm)) := by
  rw [Closure.pseudoLegal_eq]
  simp only [hbk, beq_self_eq_true, Bool.true_and, Option.isNone_none]

theorem king_not_two_files {p : Pos} {k t : Sq} (hbk : p.board k = some (.king, p.stm))
    (h : 2 ≤ (t.file - k.file).natAbs) : attacks p k t = false := by
  cases ha : attacks p k t with
  | false => rfl
  | true => have := (king_attacks_near hbk ha).1; omega

theorem apply_king_step {p : Pos} {k d : Sq} (hbk : p.board k = some (.king, p.stm))
    (hnear : (d.file - k.file).natAbs ≤ 1) :
    (apply p ⟨k, d, none⟩).board = (kingOn p k d).board := by
  have hc : isCastle p ⟨k, d, none⟩ = false := by
    unfold isCastle
    simp only [hbk, Bool.true_and, beq_eq_false_iff_ne, ne_eq]
    omega
  have he : isEnPassant p ⟨k, d, none⟩ = false := by
    unfold isEnPassant
    simp only [hbk, Bool.false_and]
  funext t
  rw [apply_board_plain hc he, kingOn_board, movedMan_eq hbk]
  rfl

/-- **king steps**: for a destination one king step away, "no man of the mover stands there and
`legal_king_move` holds" is FIDE legality of the king step -/
theorem king_step_legal_iff {T : Tables} (hT : TablesOK T) {b : Board} (hs : Struct b) (h1 : OneKing b) (d : Sq)
    (hstep : (T.king (b.kingSquare b.stm)).getLsbD d.val = true) :
    ((b.colorCombined b.stm).getLsbD d.val = false ∧ MoveGen.legalKingMove T b d = true) ↔
      legal b.abs ⟨b.kingSquare b.stm, d, none⟩ = true := by
  have hbk := h1.board_king hs
  rw [hT.king] at hstep
  have hatt : attacks b.abs (b.kingSquare b.stm) d = true := by
    unfold attacks
    simp only [hbk]
    rw [← mem_king_spec]; exact hstep
  have hnear : (d.file - (b.kingSquare b.stm).file).natAbs ≤ 1 := by
    rw [mem_king] at hstep
    simp only [Bool.and_eq_true, decide_eq_true_eq] at hstep
    exact hstep.1.2
  unfold legal
  rw [pseudoLegal_king_eq hbk, hatt, Bool.true_or, Bool.and_true, legalKingMove_iff hT hs h1,
    Closure.inCheck_congr (apply_king_step hbk hnear), inCheck_eq (kingOn_kingAt (h1.kingAt hs) d),
    Bool.and_eq_true, bne_iff_ne, Ne, PseudoBits.colorAt_iff_cbit hs, Bool.not_eq_true, Bool.not_eq_true']
  rfl

/-! ### the first loop of `KingType::legals`: king steps filtered by `legal_king_move` -/

/-- the king steps that survive `legal_king_move` (the first loop of `KingType::legals` under the mask
`!mine` that `enumerate_moves` passes) -/
def kingSteps (T : Tables) (b : Board) : BB :=
  let moves := MoveGen.pseudoLegals T .king (b.kingSquare b.stm) b.stm b.combined (~~~(b.colorCombined b.stm))
  moves.toList.foldl (fun mv dest =>
    if !MoveGen.legalKingMove T b dest then mv ^^^ BB.ofSq dest else mv) moves

/-- the value `moves` that `KingType::legals` pushes (mask `!mine`) -/
def destsKing (T : Tables) (b : Board) (inCheck : Bool) : BB :=
  let ksq := b.kingSquare b.stm
  let moves := kingSteps T b
  if !inCheck then
    let moves :=
      if b.myCastleRights.ks && (b.combined &&& T.ksCastle b.stm) == 0#64 then
        let middle := ksq.uright
        let right := middle.uright
        if MoveGen.legalKingMove T b middle && MoveGen.legalKingMove T b right then moves ^^^ BB.ofSq right else moves
      else moves
    if b.myCastleRights.qs && (b.combined &&& T.qsCastle b.stm) == 0#64 then
      let middle := ksq.uleft
      let left := middle.uleft
      if MoveGen.legalKingMove T b middle && MoveGen.legalKingMove T b left then moves ^^^ BB.ofSq left else moves
    else moves
  else moves

/-- `KingType::legals` pushes the single entry `(ksq, destsKing)` (if it is not empty) -/
theorem legalsKing_eq (T : Tables) (ic : Bool) (l : List Entry) (b : Board) :
    MoveGen.legalsKing T ic l b (~~~(b.colorCombined b.stm)) =
      MoveGen.pushIf l ⟨b.kingSquare b.stm, destsKing T b ic, false⟩ := rfl

theorem mem_kingSteps {T : Tables} (b : Board) (d : Sq) :
    (kingSteps T b).getLsbD d.val =
      ((T.king (b.kingSquare b.stm)).getLsbD d.val && !(b.colorCombined b.stm).getLsbD d.val &&
        MoveGen.legalKingMove T b d) := by
  rw [show kingSteps T b = Entries.kingSteps T b from rfl, Entries.kingSteps_getLsbD]
  unfold Entries.ownMask
  rw [BitVec.getLsbD_and, BitVec.getLsbD_not, decide_eq_true d.isLt, Bool.true_and]

theorem kingSteps_iff {T : Tables} (hT : TablesOK T) {b : Board} (hs : Struct b) (h1 : OneKing b) (d : Sq) :
    (kingSteps T b).getLsbD d.val = true ↔
      (T.king (b.kingSquare b.stm)).getLsbD d.val = true ∧
        legal b.abs ⟨b.kingSquare b.stm, d, none⟩ = true := by
  rw [mem_kingSteps]
  simp only [Bool.and_eq_true, Bool.not_eq_true', and_assoc]
  exact and_congr_right fun h => king_step_legal_iff hT hs h1 d h

/-! ### the squares of castling -/

abbrev hsq (c : Color) (f : Fin 8) : Sq := mkSq c.backrank f

theorem hsq_file (c : Color) (f : Fin 8) : (hsq c f).file = (f.val : Int) := mkSq_file _ _
theorem hsq_rank (c : Color) (f : Fin 8) : (hsq c f).rank = c.homeRank := by rw [mkSq_rank, backrank_val]

/-- the files of the rook, of the square the king passes over and of the king's target square: kingside
(`true`) and queenside (`false`) -/
def rookF : Bool → Fin 8 | true => 7 | false => 0
def midF : Bool → Fin 8 | true => 5 | false => 3
def tgtF : Bool → Fin 8 | true => 6 | false => 2

/-- what the code reads for one side: the step towards the rook, the squares that must be empty, the right -/
def sideStep : Bool → Sq → Sq | true => Sq.uright | false => Sq.uleft
def sideMask (T : Tables) (c : Color) : Bool → BB | true => T.ksCastle c | false => T.qsCastle c
def sideRight (p : Pos) : Bool → Bool | true => p.castleK p.stm | false => p.castleQ p.stm

theorem sideStep_hsq (c : Color) (s : Bool) :
    sideStep s (hsq c 4) = hsq c (midF s) ∧ sideStep s (hsq c (midF s)) = hsq c (tgtF s) := by
  cases s <;> cases c <;> decide

/-- a side step moves the file alone, one to the right or to the left modulo 8 -/
theorem sideStep_getFile (s : Bool) (k : Sq) :
    (sideStep s k).getFile = (match s with | true => fileRight | false => fileLeft) k.getFile := by
  cases s <;> exact getFile_mkSq _ _

theorem sideStep_two (s : Bool) : ∀ k : Sq, 2 ≤ ((sideStep s (sideStep s k)).file - k.file).natAbs := fun k => by
  rw [← Sq.getFile_val, ← Sq.getFile_val, sideStep_getFile, sideStep_getFile]
  generalize k.getFile = f
  revert s f
  decide

theorem sideStep_ne : ∀ k : Sq, sideStep true (sideStep true k) ≠ sideStep false (sideStep false k) := fun k h => by
  have h := congrArg Sq.getFile h
  rw [sideStep_getFile, sideStep_getFile, sideStep_getFile, sideStep_getFile] at h
  generalize k.getFile = f at h
  revert f
  decide

theorem between_rook (c : Color) (s : Bool) :
    strictlyBetween (hsq c 4) (hsq c (midF s)) (hsq c (rookF s)) = true ∧
      strictlyBetween (hsq c 4) (hsq c (tgtF s)) (hsq c (rookF s)) = true := by
  cases s <;> cases c <;> decide

theorem no_between_rook (c : Color) (s : Bool) :
    ∀ x : Sq, strictlyBetween x (hsq c (rookF s)) (hsq c (tgtF s)) = false := by
  cases s <;> cases c <;> decide +kernel

/-- the squares the code wants empty are those strictly between king and rook -/
theorem sideMask_bit {T : Tables} (hT : TablesOK T) (c : Color) (s : Bool) (z : Sq) :
    (sideMask T c s).getLsbD z.val = strictlyBetween (hsq c 4) z (hsq c (rookF s)) := by
  cases s <;>
    simp only [sideMask, hT.ksCastle, hT.qsCastle, Geom.ksCastle, Geom.qsCastle, mem_setOf] <;>
    revert z <;> cases c <;> decide +kernel

theorem sideMask_empty {T : Tables} (hT : TablesOK T) {b : Board} (hs : Struct b) (s : Bool) :
    b.combined &&& sideMask T b.stm s = 0#64 ↔ pathClear b.abs (hsq b.stm 4) (hsq b.stm (rookF s)) = true := by
  rw [BB.eq_zero_iff, pathClear_iff]
  refine forall_congr' fun z => ?_
  have hocc := PseudoBits.occ_bridge hs z
  unfold BB.has at hocc
  rw [BitVec.getLsbD_and, sideMask_bit hT, hocc]
  cases strictlyBetween (hsq b.stm 4) z (hsq b.stm (rookF s)) <;> cases b.abs.empty z <;> decide

/-! ### castling on the specification -/

theorem castleOk_side (p : Pos) (s : Bool) :
    Closure.castleOk p ⟨hsq p.stm 4, hsq p.stm (tgtF s), none⟩ p.stm =
      (sideRight p s && (p.has (hsq p.stm (rookF s)) .rook p.stm &&
        pathClear p (hsq p.stm 4) (hsq p.stm (rookF s)) &&
        !attackedBy p p.stm.other (hsq p.stm 4) && !attackedBy p p.stm.other (hsq p.stm (midF s)) &&
        !attackedBy p p.stm.other (hsq p.stm (tgtF s)))) := by
  have f4 : (hsq p.stm 4).file = 4 := hsq_file _ _
  have f6 : (hsq p.stm 6).file = 6 := hsq_file _ _
  have f2 : (hsq p.stm 2).file = 2 := hsq_file _ _
  have e7 : sq? 7 p.stm.homeRank = some (hsq p.stm 7) := homeSq_eq p.stm 7
  have e5 : sq? 5 p.stm.homeRank = some (hsq p.stm 5) := homeSq_eq p.stm 5
  have e0 : sq? 0 p.stm.homeRank = some (hsq p.stm 0) := homeSq_eq p.stm 0
  have e3 : sq? 3 p.stm.homeRank = some (hsq p.stm 3) := homeSq_eq p.stm 3
  unfold Closure.castleOk
  cases s <;>
    simp [f4, f6, f2, hsq_rank, tgtF, rookF, midF, sideRight, e7, e5, e0, e3]

theorem castleOk_squares {p : Pos} {k d : Sq} (h : Closure.castleOk p ⟨k, d, none⟩ p.stm = true) :
    k = hsq p.stm 4 ∧ ∃ s, d = hsq p.stm (tgtF s) := by
  obtain ⟨h1, h2, h3, _, _, hside, _⟩ := Closure.castleOk_facts h
  have h1 : k.rank = p.stm.homeRank := h1
  have h3 : d.rank = k.rank := h3
  refine ⟨Sq.ext_coord (by rw [hsq_file]; exact h2) (by rw [hsq_rank, h1]), ?_⟩
  rcases hside with ⟨h6, _⟩ | ⟨h6, _⟩
  · exact ⟨true, Sq.ext_coord (by rw [hsq_file]; exact h6) (by rw [hsq_rank]; omega)⟩
  · exact ⟨false, Sq.ext_coord (by rw [hsq_file]; exact h6) (by rw [hsq_rank]; omega)⟩

theorem apply_castle {p : Pos} (hbk : p.board (hsq p.stm 4) = some (.king, p.stm)) (s : Bool) (x : Sq) :
    (apply p ⟨hsq p.stm 4, hsq p.stm (tgtF s), none⟩).board x =
      if x = hsq p.stm (tgtF s) then some (.king, p.stm) else if x = hsq p.stm 4 then none
      else if x = hsq p.stm (rookF s) then none else if x = hsq p.stm (midF s) then some (.rook, p.stm)
      else p.board x := by
  have hc : isCastle p ⟨hsq p.stm 4, hsq p.stm (tgtF s), none⟩ = true := by
    unfold isCastle
    simp only [hbk, hsq_file]
    cases s <;> decide
  have he : isEnPassant p ⟨hsq p.stm 4, hsq p.stm (tgtF s), none⟩ = false := by
    unfold isEnPassant
    simp only [hbk, Bool.false_and]
  have hr : homeSq p.stm (if (hsq p.stm (tgtF s)).file > (hsq p.stm 4).file then 7 else 0) =
      some (hsq p.stm (rookF s)) := by
    rw [hsq_file, hsq_file]
    cases s
    · exact homeSq_eq p.stm 0
    · exact homeSq_eq p.stm 7
  have hm : homeSq p.stm (if (hsq p.stm (tgtF s)).file > (hsq p.stm 4).file then 5 else 3) =
      some (hsq p.stm (midF s)) := by
    rw [hsq_file, hsq_file]
    cases s
    · exact homeSq_eq p.stm 3
    · exact homeSq_eq p.stm 5
  rw [apply_board_castle hc he hr hm, movedMan_eq hbk]
  rfl

/-- **castling on the rules alone**: with the king on its home square, castling to side `s` is legal iff
the right is there, the rook is at home, the squares between are empty, the king is not in check, and
transit and target square are safe for the king lifted and put there.  The rook's move cannot matter for
the king's safety on its target square: the rook's home square is never strictly between an attacker
and the target, and the rook's new square only blocks. -/
theorem castle_core {p : Pos} (hK : KingAt p p.stm (hsq p.stm 4)) (s : Bool) :
    legal p ⟨hsq p.stm 4, hsq p.stm (tgtF s), none⟩ = true ↔
      (sideRight p s = true ∧ p.has (hsq p.stm (rookF s)) .rook p.stm = true ∧
        pathClear p (hsq p.stm 4) (hsq p.stm (rookF s)) = true ∧
        attackedBy p p.stm.other (hsq p.stm 4) = false ∧
        attackedBy (kingOn p (hsq p.stm 4) (hsq p.stm (midF s))) p.stm.other (hsq p.stm (midF s)) = false ∧
        attackedBy (kingOn p (hsq p.stm 4) (hsq p.stm (tgtF s))) p.stm.other (hsq p.stm (tgtF s)) = false) := by
  have hbk : p.board (hsq p.stm 4) = some (.king, p.stm) := (hK _).mpr rfl
  have hnear := king_not_two_files (t := hsq p.stm (tgtF s)) hbk (by rw [hsq_file, hsq_file]; cases s <;> decide)
  have happly := apply_castle hbk s
  unfold legal
  rw [pseudoLegal_king_eq hbk, hnear, Bool.false_or, castleOk_side]
  simp only [Bool.and_eq_true, Bool.not_eq_true', bne_iff_ne, ne_eq]
  constructor
  · rintro ⟨⟨_, h1, ⟨⟨⟨h2, h3⟩, h4⟩, h5⟩, h6⟩, _⟩
    exact ⟨h1, h2, h3, h4, safe_lifted_of_safe hK h4 h5, safe_lifted_of_safe hK h4 h6⟩
  · rintro ⟨h1, h2, h3, h4, h5, h6⟩
    have hm := pathClear_empty h3 (between_rook p.stm s).1
    have ht := pathClear_empty h3 (between_rook p.stm s).2
    have hK' : KingAt (apply p ⟨hsq p.stm 4, hsq p.stm (tgtF s), none⟩) p.stm (hsq p.stm (tgtF s)) :=
      hK.move (by rw [happly, if_pos rfl]) fun x hne hx => by
        rw [happly, if_neg hne] at hx
        split at hx
        · cases hx
        · split at hx
          · cases hx
          · split at hx
            · cases hx
            · exact ⟨‹_›, hx⟩
    refine ⟨⟨?_, h1, ⟨⟨⟨h2, h3⟩, h4⟩, safe_of_safe_lifted hK hm h5⟩, safe_of_safe_lifted hK ht h6⟩, ?_⟩
    · unfold Pos.colorAt; rw [ht]; exact fun e => by cases e
    · rw [inCheck_eq hK']
      -- every attacker of the target after castling attacks it with the king merely lifted and put there
      refine attackedBy_mono (fun x hx _ => ?_) h6
      have hxb := hx
      unfold Pos.colorAt at hxb
      rw [happly] at hxb
      have hxt : x ≠ hsq p.stm (tgtF s) := fun h => by
        rw [if_pos h] at hxb; exact Color.other_ne p.stm (Option.some.inj hxb).symm
      rw [if_neg hxt] at hxb
      have hxk : x ≠ hsq p.stm 4 := fun h => by rw [if_pos h] at hxb; cases hxb
      rw [if_neg hxk] at hxb
      have hxr : x ≠ hsq p.stm (rookF s) := fun h => by rw [if_pos h] at hxb; cases hxb
      rw [if_neg hxr] at hxb
      have hxm : x ≠ hsq p.stm (midF s) := fun h => by
        rw [if_pos h] at hxb; exact Color.other_ne p.stm (Option.some.inj hxb).symm
      refine ⟨by rw [kingOn_board, happly, if_neg hxt, if_neg hxk, if_neg hxt, if_neg hxk, if_neg hxr, if_neg hxm],
        fun z hz he => ?_⟩
      rw [kingOn_empty]
      refine ⟨strictlyBetween_ne_right hz, ?_⟩
      by_cases hzk : z = hsq p.stm 4
      · exact Or.inl hzk
      · right
        have hzr : z ≠ hsq p.stm (rookF s) := fun h => by rw [h, no_between_rook] at hz; cases hz
        unfold Pos.empty at he ⊢
        rw [happly, if_neg (strictlyBetween_ne_right hz), if_neg hzk, if_neg hzr] at he
        split at he
        · cases he
        · exact he

/-- the code's castling test for one side: the right, the squares between king and rook empty, transit
and target square pass `legal_king_move` -/
def castleCode (T : Tables) (b : Board) (s : Bool) : Bool :=
  (sideRight b.abs s && (b.combined &&& sideMask T b.stm s) == 0#64) &&
    (MoveGen.legalKingMove T b (sideStep s (b.kingSquare b.stm)) &&
      MoveGen.legalKingMove T b (sideStep s (sideStep s (b.kingSquare b.stm))))

/-- **castling**: the code's test for side `s` together with "not in check" is FIDE legality of the castling
move, provided the right is backed by the king and the rook on their home squares.  (Queenside, the
`b`-file square must be empty but may be attacked.) -/
theorem castle_iff {T : Tables} (hT : TablesOK T) {b : Board} (hs : Struct b) (h1 : OneKing b) (s : Bool)
    (hback : sideRight b.abs s = true →
      b.kingSquare b.stm = hsq b.stm 4 ∧ b.abs.board (hsq b.stm (rookF s)) = some (.rook, b.stm)) :
    (castleCode T b s = true ∧ inCheck b.abs b.stm = false) ↔
      legal b.abs ⟨b.kingSquare b.stm, sideStep s (sideStep s (b.kingSquare b.stm)), none⟩ = true := by
  have hK := h1.kingAt hs
  have hL := legalKingMove_iff hT hs h1
  unfold castleCode
  simp only [Bool.and_eq_true, beq_iff_eq]
  generalize b.kingSquare b.stm = k at hK hL hback ⊢
  by_cases hke : k = hsq b.stm 4
  · subst hke
    have hcore := castle_core hK s
    simp only [show b.abs.stm = b.stm from rfl] at hcore
    rw [(sideStep_hsq b.stm s).1, (sideStep_hsq b.stm s).2, hcore, hL, hL, sideMask_empty hT hs,
      inCheck_eq hK]
    constructor
    · rintro ⟨⟨⟨a1, a2⟩, a3, a4⟩, a5⟩
      refine ⟨a1, ?_, a2, a5, a3, a4⟩
      unfold Pos.has; rw [(hback a1).2]; exact beq_self_eq_true _
    · rintro ⟨a1, _, a2, a5, a3, a4⟩
      exact ⟨⟨⟨a1, a2⟩, a3, a4⟩, a5⟩
  · constructor
    · rintro ⟨⟨⟨a1, _⟩, _⟩, _⟩; exact absurd (hback a1).1 hke
    · intro hl
      unfold legal at hl
      rw [Bool.and_eq_true, pseudoLegal_king_eq ((hK k).mpr rfl),
        king_not_two_files ((hK k).mpr rfl) (sideStep_two s k)] at hl
      simp only [Bool.false_or, Bool.and_eq_true] at hl
      exact absurd (castleOk_squares hl.1.2).1 hke

/-! ### the destination set of the king -/

theorem ite_xor_bit (c : Bool) (x : BB) (s d : Sq) :
    (if c = true then x ^^^ BB.ofSq s else x).getLsbD d.val = (x.getLsbD d.val ^^ (c && decide (d = s))) := by
  cases c
  · simp
  · rw [if_pos rfl, BitVec.getLsbD_xor, BB.getLsbD_ofSq_val]; rfl

theorem ite_ite_and {α : Type} (a c : Bool) (x y : α) :
    (if a = true then (if c = true then x else y) else y) = if (a && c) = true then x else y := by
  cases a <;> cases c <;> rfl

theorem destsKing_false_bit (T : Tables) (b : Board) (d : Sq) :
    (destsKing T b false).getLsbD d.val =
      (((kingSteps T b).getLsbD d.val ^^
          (castleCode T b true && decide (d = sideStep true (sideStep true (b.kingSquare b.stm))))) ^^
        (castleCode T b false && decide (d = sideStep false (sideStep false (b.kingSquare b.stm))))) := by
  rw [← ite_xor_bit, ← ite_xor_bit]
  unfold destsKing
  simp only [Bool.not_false, if_true]
  rw [ite_ite_and, ite_ite_and]
  rfl

theorem legal_king_cases {T : Tables} (hT : TablesOK T) {b : Board} (hs : Struct b) (h1 : OneKing b) {d : Sq}
    (hl : legal b.abs ⟨b.kingSquare b.stm, d, none⟩ = true) :
    (T.king (b.kingSquare b.stm)).getLsbD d.val = true ∨
      (inCheck b.abs b.stm = false ∧ ∃ s, d = sideStep s (sideStep s (b.kingSquare b.stm))) := by
  have hK := h1.kingAt hs
  have hbk := h1.board_king hs
  unfold legal at hl
  rw [Bool.and_eq_true, pseudoLegal_king_eq hbk, Bool.and_eq_true, Bool.or_eq_true] at hl
  rcases hl.1.2 with h | h
  · left
    unfold attacks at h
    simp only [hbk] at h
    rw [hT.king, mem_king_spec]; exact h
  · right
    obtain ⟨hk, s, hd⟩ := castleOk_squares h
    rw [hk, hd, castleOk_side] at h
    simp only [Bool.and_eq_true, Bool.not_eq_true', show b.abs.stm = b.stm from rfl] at h hk hd
    rw [inCheck_eq hK, hk]
    exact ⟨h.2.1.1.2, s, by rw [hd, (sideStep_hsq b.stm s).1, (sideStep_hsq b.stm s).2]⟩

/-- **the king's destination set is exact**: the bitboard pushed by `KingType::legals` (called with
`in_check = ic`, where `ic` says whether the mover is in check) has bit `d` iff the king move to `d`
(step or castling) is legal -/
theorem destsKing_iff {T : Tables} (hT : TablesOK T) {b : Board} (hs : Struct b) (h1 : OneKing b)
    (hback : ∀ s, sideRight b.abs s = true →
      b.kingSquare b.stm = hsq b.stm 4 ∧ b.abs.board (hsq b.stm (rookF s)) = some (.rook, b.stm))
    (ic : Bool) (hic : inCheck b.abs b.stm = ic) (d : Sq) :
    (destsKing T b ic).getLsbD d.val = true ↔ legal b.abs ⟨b.kingSquare b.stm, d, none⟩ = true := by
  have hsteps : (kingSteps T b).getLsbD d.val = true ↔ legal b.abs ⟨b.kingSquare b.stm, d, none⟩ = true ∧
      ¬ (ic = false ∧ ∃ s, d = sideStep s (sideStep s (b.kingSquare b.stm))) := by
    rw [kingSteps_iff hT hs h1]
    constructor
    · rintro ⟨h, hl⟩
      refine ⟨hl, fun ⟨_, s, hd⟩ => ?_⟩
      rw [hT.king, mem_king, hd] at h
      have := sideStep_two s (b.kingSquare b.stm)
      simp only [Bool.and_eq_true, decide_eq_true_eq] at h
      omega
    · rintro ⟨hl, hn⟩
      exact ⟨(legal_king_cases hT hs h1 hl).resolve_right (hic ▸ hn), hl⟩
  cases ic with
  | true => exact hsteps.trans ⟨fun h => h.1, fun h => ⟨h, fun h => Bool.noConfusion h.1⟩⟩
  | false =>
    rw [destsKing_false_bit]
    by_cases hd : ∃ s, d = sideStep s (sideStep s (b.kingSquare b.stm))
    · have h0 : (kingSteps T b).getLsbD d.val = false :=
        Bool.eq_false_iff.mpr fun h => (hsteps.mp h).2 ⟨rfl, hd⟩
      obtain ⟨s, hd⟩ := hd
      subst hd
      rw [h0, Bool.false_xor, ← castle_iff hT hs h1 s (hback s), hic]
      cases s
      · simp [(sideStep_ne _).symm]
      · simp [sideStep_ne]
    · rw [decide_eq_false fun e => hd ⟨true, e⟩, decide_eq_false fun e => hd ⟨false, e⟩, Bool.and_false,
        Bool.and_false, Bool.xor_false, Bool.xor_false, hsteps]
      exact ⟨fun h => h.1, fun h => ⟨h, fun h => hd h.2⟩⟩

theorem oneKing_of_valid {b : Board} (hs : Struct b) (hv : Valid b.abs = true) : OneKing b := by
  have h := ((Closure.valid_iff _).mp hv).king b.stm
  rw [hs.count_piece_color] at h
  exact h

theorem backed_of_valid {b : Board} (hs : Struct b) (hv : Valid b.abs = true) (s : Bool)
    (hr : sideRight b.abs s = true) :
    b.kingSquare b.stm = hsq b.stm 4 ∧ b.abs.board (hsq b.stm (rookF s)) = some (.rook, b.stm) := by
  have hV := (Closure.valid_iff _).mp hv
  have h : (homeSq b.stm 4).any (b.abs.has · .king b.stm) = true ∧
      (homeSq b.stm ((rookF s).val : Int)).any (b.abs.has · .rook b.stm) = true := by
    cases s
    · exact hV.cq _ hr
    · exact hV.ck _ hr
  rw [homeSq_4, homeSq_eq, Option.any_some, Option.any_some] at h
  unfold Pos.has at h
  rw [beq_iff_eq, beq_iff_eq] at h
  exact ⟨(((oneKing_of_valid hs hv).kingAt hs _).mp h.1).symm, h.2⟩

end KingMoves
end Chess
