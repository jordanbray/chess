import ChessVerif.Lemmas.MoveInv
import ChessVerif.Lemmas.Sane
import ChessVerif.Lemmas.FenBoard
import ChessVerif.Lemmas.Closure
/-!
Bounds on the en-passant mark kept by the library's recording policy `norm`:

* upper bound: a mark survives `norm` only if it was there and a pawn of the side to move stands beside
  it; after `apply` a mark is there only after a double pawn step, and it is the destination square;
* lower bound: whenever an en-passant capture is pseudo-legal in a position, `norm` changes nothing;
* `Board.toBuilder.getEnPassant = Board.ep` under `Pos.EpSane` (the rank clause), so that the decoded FEN
  of a board produced by `make_move_new` carries the board's own ep mark;
* `makeMoveNew_abs_valid`: on a valid position `make_move_new` of a pseudo-legal move yields
  `norm (apply …)`, with a consistent mark.
-/
namespace Chess

/-- `norm` only ever touches the ep mark -/
theorem norm_eq_of_ep {P : Pos} (h : (norm P).ep = P.ep) : norm P = P := by
  obtain ⟨b, s, k, q, e⟩ := P
  unfold norm at h ⊢
  simp only at h ⊢
  rw [h]

theorem ep_recorded_iff (p : Pos) (m : Move) (s : Sq) :
    (norm (apply p m)).ep = some s ↔
      (isDoubleStep p m = true ∧ s = m.dst ∧
        ∃ t : Sq, t.rank = s.rank ∧ (t.file - s.file).natAbs = 1 ∧
          (apply p m).has t .pawn (apply p m).stm = true) := by
  rw [norm_ep_eq_some]
  constructor
  · rintro ⟨he, ht⟩
    obtain ⟨hd, hs⟩ := apply_ep_some he
    exact ⟨hd, hs, ht⟩
  · rintro ⟨hd, hs, ht⟩
    exact ⟨by rw [Closure.apply_ep, if_pos hd, hs], ht⟩

/-- the recorded mark after a pseudo-legal move, in full: the move was the FIDE double push of a pawn of the
mover landing on the marked square, and an enemy pawn (a pawn of the side now to move), which stood there
before the move already, is on the same rank on an adjacent file -/
theorem ep_recorded_shape {p : Pos} {m : Move} {s : Sq} (hpl : pseudoLegal p m = true)
    (h : (norm (apply p m)).ep = some s) :
    s = m.dst ∧ p.board m.src = some (.pawn, p.stm) ∧ m.dst.file = m.src.file ∧
      m.src.rank = p.stm.pawnRank ∧ m.dst.rank = p.stm.pawnRank + 2 * p.stm.fwd ∧
      ∃ t : Sq, t.rank = m.dst.rank ∧ (t.file - m.dst.file).natAbs = 1 ∧
        p.board t = some (.pawn, p.stm.other) ∧ (apply p m).board t = some (.pawn, p.stm.other) := by
  obtain ⟨hd, hs, t, h1, h2, h3⟩ := (ep_recorded_iff p m s).mp h
  subst hs
  obtain ⟨hsrc, he, _, hf, hr1, hr2, _⟩ := double_step_shape hpl hd
  have hb := apply_board_plain (isCastle_not_king hsrc (by decide)) he t
  have n1 : t ≠ m.dst := fun e => by rw [e] at h2; omega
  have n2 : t ≠ m.src := fun e => by rw [e] at h2; omega
  rw [if_neg n1, if_neg n2] at hb
  unfold Pos.has at h3
  rw [beq_iff_eq, PinCheck.apply_stm] at h3
  exact ⟨rfl, hsrc, hf, hr1, hr2, t, h1, h2, hb ▸ h3, h3⟩

/-- the recording policy keeps the mark whenever an en-passant capture is pseudo-legal: a pawn move that
changes file onto an empty square is the en-passant clause of `pseudoLegal`, which puts the capturing pawn
beside the marked one.  No hypothesis on the position. -/
theorem ep_kept_of_pseudoLegal {q : Pos} {m : Move} (hpl : pseudoLegal q m = true)
    (he : isEnPassant q m = true) : (norm q).ep = q.ep ∧ q.ep.isSome = true := by
  obtain ⟨pc, hs, _⟩ := pseudoLegal_src hpl
  by_cases hp : pc = .pawn
  · subst hp
    rcases pawn_kinds hpl hs with ⟨he', _⟩ | ⟨he', _⟩ | ⟨_, _, _, hdf, _, x, hx, hpe, _⟩
    · rw [he] at he'; cases he'
    · rw [he] at he'; cases he'
    · rw [sq?_eq_some] at hx
      have hbeside : q.has m.src .pawn q.stm = true := by
        unfold Pos.has; rw [hs]; exact beq_self_eq_true _
      rw [norm_ep_eq_some.mpr ⟨hpe, m.src, hx.2.symm, by omega, hbeside⟩, hpe]
      exact ⟨rfl, rfl⟩
  · rw [(not_pawn_flags hs hp).1] at he; cases he

theorem norm_eq_of_pseudoLegal_ep {q : Pos} {m : Move} (hpl : pseudoLegal q m = true)
    (he : isEnPassant q m = true) : norm q = q :=
  norm_eq_of_ep (ep_kept_of_pseudoLegal hpl he).1

/-- `From<&Board> for BoardBuilder` followed by `get_en_passant` gives the board's own ep square back as
soon as that square is on the fourth rank of the side that has just moved (a clause of `Pos.EpSane`) -/
theorem Board.toBuilder_getEnPassant_of_epSane {b : Board} (h : b.abs.EpSane) :
    b.toBuilder.getEnPassant = b.ep :=
  Builder.getEnPassant_of_fourthRank rfl fun q hq => (fourthRank_iff b.stm.other q).mpr (h q hq).2.1

theorem decode_showBoard_of_epSane {b : Board} (h : b.abs.EpSane) :
    Fen.decode (showBoard b) = some b.abs := by
  obtain ⟨q, h1, h2, h3, h4, h5, h6, h7, h8⟩ := decode_showBuilder b.toBuilder
  have hk : q.castleK = b.abs.castleK := funext fun c => by
    cases c
    · exact h4
    · exact h6
  have hq : q.castleQ = b.abs.castleQ := funext fun c => by
    cases c
    · exact h5
    · exact h7
  show Fen.decode (showBuilder b.toBuilder) = some b.abs
  rw [h1, Pos.ext' (funext h2) h3 hk hq (h8.trans (Board.toBuilder_getEnPassant_of_epSane h))]

theorem makeMoveNew_abs_valid {T : Tables} (hT : TablesOK T) {b b' : Board} {m : Move} (hc : Core T b)
    (hv : Valid b.abs = true) (hpl : pseudoLegal b.abs m = true) (h : b.makeMoveNew T m = some b') :
    b'.abs = norm (apply b.abs m) ∧ b'.abs.EpSane :=
  have hi := PlayInv.move hT ⟨hc, Valid_epSane hv, Valid_rightsSane hv⟩ hpl h
  ⟨hi.2, hi.1.2.1⟩

end Chess
