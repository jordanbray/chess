import ChessVerif.Lemmas.GeomBridge1
/-
Geometry, part 2: a line is a square, one of the eight directions and a signed step count (`At`, DESIGN
Appendix B), so that after `cases u` every goal is linear.  `step?`, `onRay`, `Geom.ray` and
`Geom.walkL` in these terms.
-/
namespace Chess

theorem mem_allDirs (u : Dir) : u ∈ allDirs := by cases u <;> decide

/-! ### opposite directions -/

def Dir.opp : Dir → Dir
  | .n => .s | .ne => .sw | .e => .w | .se => .nw | .s => .n | .sw => .ne | .w => .e | .nw => .se

theorem Dir.opp_opp (u : Dir) : u.opp.opp = u := by cases u <;> rfl
theorem Dir.opp_df (u : Dir) : u.opp.df = -u.df := by cases u <;> rfl
theorem Dir.opp_dr (u : Dir) : u.opp.dr = -u.dr := by cases u <;> rfl
theorem Dir.opp_ne (u : Dir) : u.opp ≠ u := by cases u <;> decide
theorem Dir.opp_mem_rookDirs {u : Dir} : u ∈ rookDirs → u.opp ∈ rookDirs := by cases u <;> decide
theorem Dir.opp_mem_bishopDirs {u : Dir} : u ∈ bishopDirs → u.opp ∈ bishopDirs := by cases u <;> decide
theorem Dir.mem_rook_or_bishop (u : Dir) : u ∈ rookDirs ∨ u ∈ bishopDirs := by cases u <;> decide

theorem Dir.ext {u u' : Dir} (h1 : u.df = u'.df) (h2 : u.dr = u'.dr) : u = u' := by
  cases u <;> cases u' <;> first | rfl | exact absurd h1 (by decide) | exact absurd h2 (by decide)

/-! ### positions along a direction -/

namespace PinCheck

/-- `z` is the square at (signed) position `i` from `o` along `u` -/
def At (o : Sq) (u : Dir) (i : Int) (z : Sq) : Prop :=
  z.file = o.file + i * u.df ∧ z.rank = o.rank + i * u.dr

theorem At.zero (o : Sq) (u : Dir) : At o u 0 o := by
  unfold At; omega

theorem At.ext {o : Sq} {u : Dir} {i : Int} {z z' : Sq} (h1 : At o u i z) (h2 : At o u i z') : z = z' :=
  Sq.ext_coord (h1.1.trans h2.1.symm) (h1.2.trans h2.2.symm)

theorem At.shift {o : Sq} {u : Dir} {i j : Int} {b z : Sq} (h1 : At o u i b) (h2 : At o u j z) :
    At b u (j - i) z := by
  unfold At at h1 h2 ⊢
  rw [Int.sub_mul, Int.sub_mul]
  omega

theorem At.add {o : Sq} {u : Dir} {i j : Int} {b z : Sq} (h1 : At o u i b) (h2 : At b u j z) :
    At o u (i + j) z := by
  unfold At at h1 h2 ⊢
  rw [Int.add_mul, Int.add_mul]
  omega

theorem At.opp {o : Sq} {u : Dir} {i : Int} {z : Sq} (h : At o u i z) : At o u.opp (-i) z := by
  unfold At
  rwa [Dir.opp_df, Dir.opp_dr, Int.neg_mul_neg, Int.neg_mul_neg]

theorem At.rev {o : Sq} {u : Dir} {i : Int} {z : Sq} (h : At o u i z) : At z u.opp i o := by
  have := (h.shift (At.zero o u)).opp
  rwa [Int.zero_sub, Int.neg_neg] at this

/-- the step count is the larger of the two coordinate distances -/
theorem At.dist {o : Sq} {u : Dir} {i : Int} {z : Sq} (h : At o u i z) (hi : 0 ≤ i) :
    (-i ≤ z.file - o.file ∧ z.file - o.file ≤ i ∧ -i ≤ z.rank - o.rank ∧ z.rank - o.rank ≤ i) ∧
    (i ≤ z.file - o.file ∨ i ≤ o.file - z.file ∨ i ≤ z.rank - o.rank ∨ i ≤ o.rank - z.rank) := by
  obtain ⟨h1, h2⟩ := h
  cases u <;> simp only [Dir.df, Dir.dr] at h1 h2 <;> omega

theorem At.inj {o : Sq} {u : Dir} {i j : Int} {z : Sq} (h1 : At o u i z) (h2 : At o u j z) : i = j := by
  have h := h1.shift h2
  rcases Int.le_total 0 (j - i) with hk | hk
  · have := h.dist hk
    omega
  · have := h.opp.dist (by omega)
    omega

theorem At.ne {o : Sq} {u : Dir} {i : Int} {z : Sq} (h : At o u i z) (hi : i ≠ 0) : z ≠ o :=
  fun e => hi (At.inj (e ▸ h) (At.zero o u))

theorem At.dir_unique {k : Sq} {u u' : Dir} {i i' : Int} {y : Sq} (hi : 0 < i) (hi' : 0 < i')
    (h : At k u i y) (h' : At k u' i' y) : u = u' ∧ i = i' := by
  have e : i = i' := by
    have := h.dist (Int.le_of_lt hi)
    have := h'.dist (Int.le_of_lt hi')
    omega
  subst e
  have hi0 := Int.ne_of_gt hi
  exact ⟨Dir.ext (Int.eq_of_mul_eq_mul_left hi0 (by have := h.1; have := h'.1; omega))
    (Int.eq_of_mul_eq_mul_left hi0 (by have := h.2; have := h'.2; omega)), rfl⟩

end PinCheck
open PinCheck

/-! ### `step?` and `onRay` -/

theorem step?_eq_some (a : Sq) (u : Dir) (n : Nat) (x : Sq) : step? a u n = some x ↔ At a u n x :=
  sq?_eq_some

theorem onRay_iff_step (a : Sq) (u : Dir) (n : Nat) (b : Sq) :
    onRay a u n b = true ↔ 0 < n ∧ step? a u n = some b := by
  unfold onRay
  rw [Bool.and_eq_true, decide_eq_true_eq, beq_iff_eq]

theorem onRay_iff (a : Sq) (u : Dir) (n : Nat) (b : Sq) :
    onRay a u n b = true ↔ 0 < n ∧ b.file = a.file + n * u.df ∧ b.rank = a.rank + n * u.dr :=
  (onRay_iff_step a u n b).trans (and_congr_right fun _ => step?_eq_some a u n b)

theorem onRay_of_At {a : Sq} {u : Dir} {i : Int} {b : Sq} (hi : 0 < i) (h : At a u i b) :
    onRay a u i.toNat b = true := by
  rw [onRay_iff, Int.toNat_of_nonneg (Int.le_of_lt hi)]
  exact ⟨by omega, h⟩

theorem onRay_le7 {a : Sq} {u : Dir} {n : Nat} {b : Sq} (h : onRay a u n b = true) : n ≤ 7 := by
  have ha := Sq.coord_bounds a
  have hb := Sq.coord_bounds b
  have := At.dist ((onRay_iff a u n b).mp h).2 (by omega)
  omega

theorem onRay_ne {a : Sq} {u : Dir} {n : Nat} {b : Sq} (h : onRay a u n b = true) : b ≠ a := by
  obtain ⟨hn, h⟩ := (onRay_iff a u n b).mp h
  exact At.ne h (by omega)

theorem step?_inj {s : Sq} {u : Dir} {n m : Nat} {x : Sq}
    (h : step? s u n = some x) (h' : step? s u m = some x) : n = m := by
  have := At.inj ((step?_eq_some s u n x).mp h) ((step?_eq_some s u m x).mp h')
  omega

theorem ray_dir_unique {k : Sq} {u u' : Dir} {t t' : Nat} {y : Sq}
    (h : onRay k u t y = true) (h' : onRay k u' t' y = true) : u = u' ∧ t = t' := by
  rw [onRay_iff] at h h'
  obtain ⟨e, e'⟩ := At.dir_unique (by omega) (by omega) h.2 h'.2
  exact ⟨e, by omega⟩

theorem onRay_opp_iff (a b : Sq) (u : Dir) (n : Nat) :
    onRay b u.opp n a = onRay a u n b := by
  rw [Bool.eq_iff_iff, onRay_iff, onRay_iff]
  exact and_congr_right fun _ => ⟨fun h => u.opp_opp ▸ At.rev h, At.rev⟩

theorem step?_isSome_of_le {s : Sq} {u : Dir} {n m : Nat} {x : Sq}
    (h : step? s u n = some x) (hm : m ≤ n) : ∃ z, step? s u m = some z := by
  obtain ⟨h1, h2⟩ := (step?_eq_some s u n x).mp h
  have hs := Sq.coord_bounds s
  have hx := Sq.coord_bounds x
  cases hz : step? s u m with
  | some z => exact ⟨z, rfl⟩
  | none =>
    exfalso
    apply (sq?_eq_none _ _).mp hz
    cases u <;> simp only [Dir.df, Dir.dr] at h1 h2 ⊢ <;> omega

/-! ### rays -/

theorem mem_ray (s : Sq) (u : Dir) (x : Sq) :
    x ∈ Geom.ray s u ↔ ∃ n, 1 ≤ n ∧ n ≤ 7 ∧ step? s u n = some x := by
  unfold Geom.ray
  simp only [List.mem_filterMap, List.mem_range]
  constructor
  · rintro ⟨n, hn, h⟩
    exact ⟨n + 1, by omega, by omega, h⟩
  · rintro ⟨n, h1, h7, h⟩
    obtain ⟨n, rfl⟩ : ∃ k, n = k + 1 := ⟨n - 1, by omega⟩
    exact ⟨n, by omega, h⟩

theorem mem_ray_iff_onRay (s : Sq) (u : Dir) (x : Sq) :
    x ∈ Geom.ray s u ↔ ∃ n, onRay s u n x = true := by
  simp only [mem_ray, onRay_iff_step]
  constructor
  · rintro ⟨n, h1, _, h⟩
    exact ⟨n, by omega, h⟩
  · rintro ⟨n, hn, h⟩
    exact ⟨n, by omega, onRay_le7 ((onRay_iff_step s u n x).mpr ⟨hn, h⟩), h⟩

/-- the defined values of a partial function on `0, …, k-1` whose domain is an initial segment, in order -/
theorem getElem?_filterMap_range {α : Type} (k : Nat) (f : Nat → Option α)
    (hf : ∀ n m, m ≤ n → f m = none → f n = none) (i : Nat) :
    ((List.range k).filterMap f)[i]? = if i < k then f i else none := by
  induction k generalizing f i with
  | zero => rfl
  | succ k ih =>
    rw [List.range_succ_eq_map, List.filterMap_cons, List.filterMap_map]
    cases h0 : f 0 with
    | none =>
      have hall : ∀ n, f n = none := fun n => hf n 0 (Nat.zero_le n) h0
      show (List.filterMap (f ∘ Nat.succ) (List.range k))[i]? = _
      rw [(List.filterMap_eq_nil_iff (f := f ∘ Nat.succ)).mpr fun n _ => hall _, hall, ite_self]
      rfl
    | some y =>
      cases i with
      | zero => exact h0.symm
      | succ i =>
        rw [List.getElem?_cons_succ, ih (f ∘ Nat.succ) fun n m hm => hf (n + 1) (m + 1) (by omega)]
        simp only [Nat.add_lt_add_iff_right, Function.comp, Nat.succ_eq_add_one]

/-- the ray is listed nearest first: its `i`-th entry is the square `i + 1` steps away -/
theorem ray_getElem? (s : Sq) (u : Dir) (i : Nat) : (Geom.ray s u)[i]? = step? s u (i + 1) := by
  unfold Geom.ray
  rw [getElem?_filterMap_range 7 _ fun n m hm h => ?_]
  · split
    · rfl
    · cases hz : step? s u (i + 1) with
      | none => rfl
      | some z =>
        have := onRay_le7 ((onRay_iff_step s u (i + 1) z).mpr ⟨by omega, hz⟩)
        omega
  · cases hz : step? s u (n + 1) with
    | none => rfl
    | some z =>
      obtain ⟨z', hz'⟩ := step?_isSome_of_le hz (Nat.add_le_add_right hm 1)
      rw [h] at hz'
      cases hz'

theorem ray_nodup (s : Sq) (u : Dir) : (Geom.ray s u).Nodup := by
  refine List.Pairwise.filterMap _ (fun n m hnm x hx y hy e => ?_) List.nodup_range
  have := step?_inj hx (e ▸ hy)
  omega

/-! ### walking a list of squares -/

theorem getLsbD_walkL_cons (t : Sq) (ts : List Sq) (occ : BB) (x : Sq) :
    (Geom.walkL (t :: ts) occ).getLsbD x.val =
      (decide (x = t) || (!occ.has t && (Geom.walkL ts occ).getLsbD x.val)) := by
  show (BB.ofSq t ||| (if occ.has t then 0#64 else Geom.walkL ts occ)).getLsbD x.val = _
  rw [BitVec.getLsbD_or, BB.getLsbD_ofSq_val]
  cases occ.has t <;> simp

/-- `x` is reached by the walk iff it occurs on the list at an index before which every square is
empty -/
theorem mem_walkL_idx (l : List Sq) (occ : BB) (x : Sq) :
    (Geom.walkL l occ).getLsbD x.val = true ↔
      ∃ i : Nat, l[i]? = some x ∧ ∀ j : Nat, j < i → ∀ z, l[j]? = some z → occ.has z = false := by
  induction l with
  | nil => simp [Geom.walkL]
  | cons t ts ih =>
    rw [getLsbD_walkL_cons, Bool.or_eq_true, decide_eq_true_eq, Bool.and_eq_true, Bool.not_eq_true', ih]
    constructor
    · rintro (rfl | ⟨ht, i, hi, hpre⟩)
      · exact ⟨0, rfl, fun j hj => absurd hj (Nat.not_lt_zero _)⟩
      · refine ⟨i + 1, hi, fun j hj z hz => ?_⟩
        cases j with
        | zero => exact Option.some.inj hz ▸ ht
        | succ j => exact hpre j (by omega) z hz
    · rintro ⟨i, hi, hpre⟩
      cases i with
      | zero => exact Or.inl (Option.some.inj hi).symm
      | succ i =>
        exact Or.inr ⟨hpre 0 (by omega) t rfl, i, hi, fun j hj z hz => hpre (j + 1) (by omega) z hz⟩

theorem mem_of_mem_walkL {l : List Sq} {occ : BB} {x : Sq}
    (h : (Geom.walkL l occ).getLsbD x.val = true) : x ∈ l := by
  obtain ⟨i, hi, _⟩ := (mem_walkL_idx l occ x).mp h
  exact List.mem_of_getElem? hi

theorem mem_walkL_empty (l : List Sq) (x : Sq) :
    (Geom.walkL l 0#64).getLsbD x.val = decide (x ∈ l) := by
  rw [Bool.eq_iff_iff, mem_walkL_idx, decide_eq_true_eq, List.mem_iff_getElem?]
  exact exists_congr fun i => and_iff_left fun _ _ _ _ => BitVec.getLsbD_zero

/-- ray walking in terms of step counts: `x` is `n` steps away and the nearer squares are empty -/
theorem mem_walkL_ray (s : Sq) (u : Dir) (occ : BB) (x : Sq) :
    (Geom.walkL (Geom.ray s u) occ).getLsbD x.val = true ↔
      ∃ n, onRay s u n x = true ∧ ∀ t z, t < n → onRay s u t z = true → occ.has z = false := by
  simp only [mem_walkL_idx, ray_getElem?, onRay_iff_step]
  constructor
  · rintro ⟨i, hi, hpre⟩
    refine ⟨i + 1, ⟨by omega, hi⟩, fun t z ht ⟨ht0, hz⟩ => ?_⟩
    obtain ⟨t, rfl⟩ : ∃ k, t = k + 1 := ⟨t - 1, by omega⟩
    exact hpre t (by omega) z hz
  · rintro ⟨n, ⟨hn, hx⟩, hpre⟩
    obtain ⟨n, rfl⟩ : ∃ k, n = k + 1 := ⟨n - 1, by omega⟩
    exact ⟨n, hx, fun j hj z hz => hpre (j + 1) z (by omega) ⟨by omega, hz⟩⟩

theorem getLsbD_sliderWalk (ds : List Dir) (s : Sq) (occ : BB) (i : Nat) :
    (Geom.sliderWalk ds s occ).getLsbD i =
      ds.any fun u => (Geom.walkL (Geom.ray s u) occ).getLsbD i := by
  unfold Geom.sliderWalk
  rw [BB.getLsbD_foldl_or (fun u => Geom.walkL (Geom.ray s u) occ)]
  simp

end Chess
