import ChessVerif.Model.MoveGen
import ChessVerif.Lemmas.BitBoard
/-
Lemmas for C14: the `MoveGen` iterator state machine (`next`, `len`, `set_iterator_mask`,
`remove_mask`, `remove_move`) over *arbitrary* entry lists, masks and states.

A state satisfying the invariant with an entry at its index is `⟨pre ++ e :: rest, _, mask, pre.length⟩`
(`exists_split_of_drop`); in that form the invariant (`inv_split_iff`), what is still to come
(`under_split`) and the effect of `next` are read off the lists.  `set_iterator_mask` is known through
`setIteratorMask_spec` only: a rearrangement that puts the entries with a move under the mask first.
-/
namespace Chess
namespace Iter

open MoveGen

/-! ### bitboards as ascending square lists -/

/-- the squares of a bitboard in ascending order (the specification of bitboard iteration) -/
def sqsOf (b : BB) : List Sq := allSq.filter fun s => b.getLsbD s.val

theorem toList_eq_sqsOf (x : BB) : x.toList = sqsOf x := BB.toList_exact x

theorem mem_sqsOf (b : BB) (s : Sq) : s ∈ sqsOf b ↔ b.getLsbD s.val = true :=
  toList_eq_sqsOf b ▸ BB.mem_toList b s

theorem sqsOf_eq_nil_iff (b : BB) : sqsOf b = [] ↔ b = 0#64 := BB.members_nil_iff b

theorem sqsOf_nodup (x : BB) : (sqsOf x).Nodup := toList_eq_sqsOf x ▸ BB.toList_nodup x

/-- one step of `Iterator for BitBoard` -/
theorem sqsOf_cons (b : BB) (h : b ≠ 0#64) :
    sqsOf b = BB.toSq b :: sqsOf (b ^^^ BB.ofSq (BB.toSq b)) := BB.members_cons b h

theorem sqsOf_and (x m : BB) : sqsOf (x &&& m) = (sqsOf x).filter fun s => m.getLsbD s.val := by
  unfold sqsOf
  rw [List.filter_filter]
  exact List.filter_congr fun s _ => by rw [BitVec.getLsbD_and, Bool.and_comm]

theorem and_allOnes (b : BB) : b &&& ~~~0#64 = b := by
  rw [BitVec.not_zero, BitVec.and_allOnes]

/-! ### what an entry list denotes -/

/-- the moves from `src` to `d`: one plain move, or the four promotions in `PROMOTION_PIECES` order -/
def expand (promo : Bool) (src d : Sq) : List Move :=
  if promo then promotionPieces.map (fun p => (⟨src, d, some p⟩ : Move)) else [⟨src, d, none⟩]

/-- the moves of one entry that land in `mask`, in yield order -/
def movesUnder (e : Entry) (mask : BB) : List Move :=
  (sqsOf (e.bb &&& mask)).flatMap (expand e.promo e.sq)

def allUnder (l : List Entry) (mask : BB) : List Move := l.flatMap (movesUnder · mask)

/-- what the generator will still yield under its current mask: the moves under the mask of the
entries from `index` on, without the promotions of the current destination already handed out -/
def under (g : MoveGen) : List Move := (allUnder (g.moves.drop g.index) g.mask).drop g.promoIdx

/-- the state invariant of the iterator (DESIGN Appendix C) -/
structure Inv (g : MoveGen) : Prop where
  promo_lt : g.promoIdx < 4
  before : ∀ e ∈ g.moves.take g.index, e.bb &&& g.mask = 0#64
  part : ∃ mid post, g.moves.drop g.index = mid ++ post ∧
    (∀ e ∈ mid, e.bb &&& g.mask ≠ 0#64) ∧ (∀ e ∈ post, e.bb &&& g.mask = 0#64)
  cursor : 0 < g.promoIdx → ∃ e, g.moves[g.index]? = some e ∧ e.promo = true ∧ e.bb &&& g.mask ≠ 0#64

theorem expand_length (promo : Bool) (src d : Sq) :
    (expand promo src d).length = if promo then 4 else 1 := by
  cases promo <;> rfl

theorem mem_expand {promo : Bool} {src d : Sq} {m : Move} :
    m ∈ expand promo src d ↔ m.src = src ∧ m.dst = d ∧
      (if promo then ∃ q ∈ promotionPieces, m.promo = some q else m.promo = none) := by
  obtain ⟨ms, md, mp⟩ := m
  cases promo
  · exact List.mem_singleton.trans ⟨fun h => by cases h; exact ⟨rfl, rfl, rfl⟩,
      fun ⟨h1, h2, h3⟩ => by cases h1; cases h2; cases (show mp = none from h3); rfl⟩
  · exact List.mem_map.trans ⟨fun ⟨q, hq, h⟩ => by cases h; exact ⟨rfl, rfl, q, hq, rfl⟩,
      fun ⟨h1, h2, q, hq, h3⟩ => ⟨q, hq, by cases h1; cases h2; cases (show mp = some q from h3); rfl⟩⟩

theorem mem_movesUnder {e : Entry} {mask : BB} {x : Move} :
    x ∈ movesUnder e mask ↔ x.src = e.sq ∧ (e.bb &&& mask).getLsbD x.dst.val = true ∧
      (if e.promo then ∃ q ∈ promotionPieces, x.promo = some q else x.promo = none) := by
  unfold movesUnder
  simp only [List.mem_flatMap, mem_sqsOf, mem_expand]
  exact ⟨fun ⟨d, hd, h1, h2, h3⟩ => ⟨h1, h2 ▸ hd, h3⟩, fun ⟨h1, h2, h3⟩ => ⟨x.dst, h2, h1, rfl, h3⟩⟩

theorem mem_allUnder {l : List Entry} {mask : BB} {x : Move} :
    x ∈ allUnder l mask ↔ ∃ e ∈ l, e.sq = x.src ∧ e.bb.getLsbD x.dst.val = true ∧
      mask.getLsbD x.dst.val = true ∧
      (if e.promo then ∃ q ∈ promotionPieces, x.promo = some q else x.promo = none) := by
  unfold allUnder
  simp only [List.mem_flatMap, mem_movesUnder, BitVec.getLsbD_and, Bool.and_eq_true]
  exact ⟨fun ⟨e, he, h1, ⟨h2, h3⟩, h4⟩ => ⟨e, he, h1.symm, h2, h3, h4⟩,
    fun ⟨e, he, h1, h2, h3, h4⟩ => ⟨e, he, h1.symm, ⟨h2, h3⟩, h4⟩⟩

theorem movesUnder_eq_nil_iff (e : Entry) (mask : BB) : movesUnder e mask = [] ↔ e.bb &&& mask = 0#64 := by
  unfold movesUnder
  rw [← sqsOf_eq_nil_iff, List.flatMap_eq_nil_iff]
  constructor
  · intro h
    cases hs : sqsOf (e.bb &&& mask) with
    | nil => rfl
    | cons d ds =>
      have := congrArg List.length (h d (hs ▸ List.mem_cons_self))
      rw [expand_length] at this
      split at this <;> cases this
  · intro h d hd
    rw [h] at hd
    cases hd

theorem length_flatMap_const {α β : Type} {f : α → List β} {c : Nat} (h : ∀ a, (f a).length = c)
    (l : List α) : (l.flatMap f).length = l.length * c := by
  induction l with
  | nil => exact (Nat.zero_mul c).symm
  | cons a as ih => rw [List.flatMap_cons, List.length_append, ih, h, List.length_cons, Nat.succ_mul, Nat.add_comm]

theorem movesUnder_length (e : Entry) (mask : BB) :
    (movesUnder e mask).length = if e.promo then (e.bb &&& mask).popcnt * 4 else (e.bb &&& mask).popcnt := by
  unfold movesUnder
  rw [length_flatMap_const (expand_length e.promo e.sq), BB.popcnt_eq_length_members]
  cases e.promo
  · exact Nat.mul_one _
  · rfl

theorem allUnder_eq_nil {l : List Entry} {mask : BB} (h : ∀ e ∈ l, e.bb &&& mask = 0#64) :
    allUnder l mask = [] :=
  List.flatMap_eq_nil_iff.mpr fun e he => (movesUnder_eq_nil_iff e mask).mpr (h e he)

theorem allUnder_append (l1 l2 : List Entry) (mask : BB) :
    allUnder (l1 ++ l2) mask = allUnder l1 mask ++ allUnder l2 mask := List.flatMap_append

theorem allUnder_cons (e : Entry) (l : List Entry) (mask : BB) :
    allUnder (e :: l) mask = movesUnder e mask ++ allUnder l mask := List.flatMap_cons

theorem allUnder_length_le (l : List Entry) (mask : BB) : (allUnder l mask).length ≤ l.length * 256 := by
  induction l with
  | nil => exact Nat.le_refl 0
  | cons a as ih =>
    rw [allUnder_cons, List.length_append, List.length_cons, Nat.succ_mul, movesUnder_length, Nat.add_comm]
    refine Nat.add_le_add ih ?_
    have := BB.popcnt_le (a.bb &&& mask)
    split
    · exact Nat.mul_le_mul_right 4 this
    · exact Nat.le_trans this (by decide)

/-! ### one destination of an entry handed out -/

def clearE (A : BB) (e : Entry) : Entry := { e with bb := e.bb &&& ~~~A }

theorem xor_and_distrib (x y m : BB) : (x ^^^ y) &&& m = (x &&& m) ^^^ (y &&& m) := by
  apply BitVec.eq_of_getLsbD_eq
  intro i _
  simp only [BitVec.getLsbD_and, BitVec.getLsbD_xor]
  cases x.getLsbD i <;> cases y.getLsbD i <;> cases m.getLsbD i <;> rfl

theorem lowest_and (bb m : BB) (h : bb &&& m ≠ 0#64) :
    BB.ofSq (bb &&& m).toSq &&& m = BB.ofSq (bb &&& m).toSq ∧
    BB.ofSq (bb &&& m).toSq &&& ~~~m = 0#64 := by
  have hs := BB.getLsbD_toSq _ h
  rw [BitVec.getLsbD_and, Bool.and_eq_true] at hs
  rw [BitVec.and_comm, BitVec.and_comm _ (~~~m), and_ofSq_eq_self_iff, and_ofSq_eq_zero_iff,
    BitVec.getLsbD_not, hs.2]
  exact ⟨rfl, by simp⟩

theorem movesUnder_step (e : Entry) (mask : BB) (h : e.bb &&& mask ≠ 0#64) :
    movesUnder e mask = expand e.promo e.sq (e.bb &&& mask).toSq ++
      movesUnder { e with bb := e.bb ^^^ BB.ofSq (e.bb &&& mask).toSq } mask := by
  unfold movesUnder
  rw [sqsOf_cons _ h, List.flatMap_cons]
  simp only [xor_and_distrib, (lowest_and e.bb mask h).1]

/-- clearing a destination that lies in `A` does not change the part of the entry outside `A` -/
theorem clearE_step (e : Entry) (A : BB) (h : e.bb &&& A ≠ 0#64) :
    clearE A { e with bb := e.bb ^^^ BB.ofSq (e.bb &&& A).toSq } = clearE A e := by
  unfold clearE
  simp only [xor_and_distrib, (lowest_and e.bb A h).2, BitVec.xor_zero]

theorem clearE_of_empty (A : BB) (e : Entry) (h : e.bb &&& A = 0#64) : clearE A e = e := by
  have : e.bb &&& ~~~A = e.bb := by
    rw [← BitVec.zero_or (x := e.bb &&& ~~~A), ← h, ← BitVec.and_or_distrib_left, BitVec.or_not_self,
      BitVec.and_allOnes]
  unfold clearE
  rw [this]

theorem clearE_and (A : BB) (e : Entry) : (clearE A e).bb &&& A = 0#64 := by
  show e.bb &&& ~~~A &&& A = 0#64
  rw [BitVec.and_assoc, BitVec.not_and_self]
  exact BitVec.and_zero

theorem clearE_clearE (A B : BB) (e : Entry) : clearE B (clearE A e) = clearE (A ||| B) e := by
  unfold clearE
  simp only [BitVec.and_assoc, BitVec.not_or]

theorem clearE_zero (e : Entry) : clearE 0#64 e = e := clearE_of_empty _ _ BitVec.and_zero

/-! ### partitioned entry lists -/

/-- the entries with a move under the mask come first -/
def Parted (mask : BB) (l : List Entry) : Prop :=
  ∃ mid post, l = mid ++ post ∧
    (∀ e ∈ mid, e.bb &&& mask ≠ 0#64) ∧ (∀ e ∈ post, e.bb &&& mask = 0#64)

theorem parted_cons {mask : BB} {e : Entry} {l : List Entry} :
    Parted mask (e :: l) ↔
      if e.bb &&& mask = 0#64 then ∀ x ∈ l, x.bb &&& mask = 0#64 else Parted mask l := by
  constructor
  · rintro ⟨mid, post, h, hmid, hpost⟩
    cases mid with
    | nil =>
      obtain rfl : e :: l = post := h
      rw [if_pos (hpost e List.mem_cons_self)]
      exact fun x hx => hpost x (List.mem_cons_of_mem _ hx)
    | cons e0 mid' =>
      obtain ⟨rfl, rfl⟩ := List.cons.inj h
      rw [if_neg (hmid e List.mem_cons_self)]
      exact ⟨mid', post, rfl, fun x hx => hmid x (List.mem_cons_of_mem _ hx), hpost⟩
  · by_cases he : e.bb &&& mask = 0#64
    · rw [if_pos he]
      exact fun h => ⟨[], e :: l, rfl, nofun, List.forall_mem_cons.mpr ⟨he, h⟩⟩
    · rw [if_neg he]
      rintro ⟨mid, post, rfl, hmid, hpost⟩
      exact ⟨e :: mid, post, rfl, List.forall_mem_cons.mpr ⟨he, hmid⟩, hpost⟩

/-! ### states with an entry at the index -/

theorem exists_split_of_drop {l : List Entry} {i : Nat} {e : Entry} {rest : List Entry}
    (h : l.drop i = e :: rest) : ∃ pre, l = pre ++ e :: rest ∧ i = pre.length := by
  have hlen := congrArg List.length h
  rw [List.length_drop, List.length_cons] at hlen
  exact ⟨l.take i, by rw [← h, List.take_append_drop], by
    rw [List.length_take, Nat.min_eq_left (Nat.le_of_lt (Nat.lt_of_sub_pos (hlen ▸ Nat.succ_pos _)))]⟩

theorem setEntryBB_append (pre : List Entry) (e : Entry) (tl : List Entry) (bb : BB) :
    setEntryBB (pre ++ e :: tl) pre.length bb = pre ++ { e with bb := bb } :: tl := by
  induction pre with
  | nil => rfl
  | cons a pre ih => exact congrArg (a :: ·) ih

theorem getElem?_split (pre l : List Entry) : (pre ++ l)[pre.length]? = l.head? := by
  rw [List.getElem?_append_right (Nat.le_refl _), Nat.sub_self, List.head?_eq_getElem?]

theorem inv_split_iff {pre l : List Entry} {pi : Nat} {mask : BB} :
    Inv ⟨pre ++ l, pi, mask, pre.length⟩ ↔
      pi < 4 ∧ (∀ e ∈ pre, e.bb &&& mask = 0#64) ∧ Parted mask l ∧
      (0 < pi → ∃ e, l.head? = some e ∧ e.promo = true ∧ e.bb &&& mask ≠ 0#64) := by
  constructor
  · rintro ⟨a, b, c, d⟩
    simp only [List.take_left, List.drop_left, getElem?_split] at b c d
    exact ⟨a, b, c, d⟩
  · rintro ⟨a, b, c, d⟩
    refine ⟨a, ?_, ?_, ?_⟩ <;> simp only [List.take_left, List.drop_left, getElem?_split]
    · exact b
    · exact c
    · exact d

theorem under_split (pre l : List Entry) (pi : Nat) (mask : BB) :
    under ⟨pre ++ l, pi, mask, pre.length⟩ = (allUnder l mask).drop pi := by
  show (allUnder ((pre ++ l).drop pre.length) mask).drop pi = _
  rw [List.drop_left]

theorem ite_index (c : Prop) [Decidable c] (l : List Entry) (pi : Nat) (mask : BB) (a b : Nat) :
    (if c then (⟨l, pi, mask, a⟩ : MoveGen) else ⟨l, pi, mask, b⟩) = ⟨l, pi, mask, if c then a else b⟩ := by
  split <;> rfl

/-- the index moves past an entry once it has no move under the mask left; nothing is lost by that -/
theorem skip_empty {pre rest : List Entry} {mask : BB} (e : Entry)
    (hpre : ∀ x ∈ pre, x.bb &&& mask = 0#64) (hrest : Parted mask rest) :
    Inv ⟨pre ++ e :: rest, 0, mask, if e.bb &&& mask = 0#64 then pre.length + 1 else pre.length⟩ ∧
    under ⟨pre ++ e :: rest, 0, mask, if e.bb &&& mask = 0#64 then pre.length + 1 else pre.length⟩ =
      allUnder (e :: rest) mask := by
  rw [allUnder_cons]
  by_cases he : e.bb &&& mask = 0#64
  · have hlen : pre.length + 1 = (pre ++ [e]).length := by rw [List.length_append]; rfl
    rw [if_pos he, List.append_cons, hlen, under_split, (movesUnder_eq_nil_iff e mask).mpr he]
    exact ⟨inv_split_iff.mpr ⟨by decide, List.forall_mem_append.mpr ⟨hpre, List.forall_mem_singleton.mpr he⟩,
      hrest, fun h => absurd h (Nat.lt_irrefl 0)⟩, rfl⟩
  · rw [if_neg he, under_split, allUnder_cons]
    exact ⟨inv_split_iff.mpr ⟨by decide, hpre, parted_cons.mpr (by rw [if_neg he]; exact hrest),
      fun h => absurd h (Nat.lt_irrefl 0)⟩, rfl⟩

/-! ### one call of `next` -/

/-- what one successful `next` does -/
structure Step (g : MoveGen) (m : Move) (g' : MoveGen) : Prop where
  inv : Inv g'
  under_eq : under g = m :: under g'
  mask_eq : g'.mask = g.mask
  cleared : g'.moves.map (clearE g.mask) = g.moves.map (clearE g.mask)

theorem next_of_empty (g : MoveGen) (hI : Inv g) (h : ∀ e ∈ g.moves.drop g.index, e.bb &&& g.mask = 0#64) :
    next g = (none, g) ∧ under g = [] ∧ ∀ e ∈ g.moves, e.bb &&& g.mask = 0#64 := by
  refine ⟨?_, ?_, ?_⟩
  · unfold next
    cases hg : g.moves[g.index]? with
    | none => rfl
    | some e =>
      rw [← List.head?_drop] at hg
      exact if_pos (h e (List.mem_of_mem_head? hg))
  · unfold under
    rw [allUnder_eq_nil h, List.drop_nil]
  · intro e he
    rw [← List.take_append_drop g.index g.moves] at he
    exact (List.mem_append.mp he).elim (hI.before e) (h e)

theorem next_cases (g : MoveGen) (hI : Inv g) :
    (next g = (none, g) ∧ under g = [] ∧ ∀ e ∈ g.moves, e.bb &&& g.mask = 0#64) ∨
    ∃ m g', next g = (some m, g') ∧ Step g m g' := by
  cases hd : g.moves.drop g.index with
  | nil => exact .inl (next_of_empty g hI (by rw [hd]; nofun))
  | cons e rest =>
    by_cases he : e.bb &&& g.mask = 0#64
    · have := parted_cons.mp (hd ▸ hI.part)
      rw [if_pos he] at this
      exact .inl (next_of_empty g hI (by rw [hd]; exact List.forall_mem_cons.mpr ⟨he, this⟩))
    · right
      obtain ⟨pre, hl, hi⟩ := exists_split_of_drop hd
      obtain ⟨moves, pi, mask, idx⟩ := g
      subst hl hi
      obtain ⟨hpi, hpre, hpart, hcur⟩ := inv_split_iff.mp hI
      rw [parted_cons, if_neg he] at hpart
      have hstep : allUnder (e :: rest) mask = expand e.promo e.sq (e.bb &&& mask).toSq ++
          allUnder ({ e with bb := e.bb ^^^ BB.ofSq (e.bb &&& mask).toSq } :: rest) mask := by
        rw [allUnder_cons, allUnder_cons, movesUnder_step e mask he, List.append_assoc]
      have hnext : ∀ r, (if e.bb &&& mask = 0#64 then ((none : Option Move), (⟨pre ++ e :: rest, pi, mask,
          pre.length⟩ : MoveGen)) else r) = r := fun r => if_neg he
      obtain ⟨hinv, hund⟩ := skip_empty { e with bb := e.bb ^^^ BB.ofSq (e.bb &&& mask).toSq } hpre hpart
      have hcl : (pre ++ { e with bb := e.bb ^^^ BB.ofSq (e.bb &&& mask).toSq } :: rest).map (clearE mask) =
          (pre ++ e :: rest).map (clearE mask) := by
        simp only [List.map_append, List.map_cons, clearE_step e mask he]
      by_cases hb : e.promo = true ∧ pi + 1 < 4
      · -- a promotion cycle goes on
        refine ⟨⟨e.sq, (e.bb &&& mask).toSq, promotionPieces[pi]?⟩,
          ⟨pre ++ e :: rest, pi + 1, mask, pre.length⟩, ?_,
          inv_split_iff.mpr ⟨hb.2, hpre, parted_cons.mpr (by rw [if_neg he]; exact hpart),
            fun _ => ⟨e, rfl, hb.1, he⟩⟩, ?_, rfl, rfl⟩
        · unfold next
          simp only [getElem?_split, List.head?_cons, hnext, hb.1, if_true,
            if_neg (Nat.not_le_of_lt hb.2)]
        · rw [under_split, under_split, hstep, hb.1]
          obtain _ | _ | _ | n := pi
          · rfl
          · rfl
          · rfl
          · exact absurd hb.2 (Nat.not_lt.mpr (Nat.le_add_left 4 n))
      · -- the destination is finished
        have hpi' : (e.promo = false ∧ pi = 0) ∨ (e.promo = true ∧ pi = 3) := by
          cases hp : e.promo
          · refine .inl ⟨rfl, Nat.eq_zero_of_not_pos fun h => ?_⟩
            obtain ⟨x, hx, hxp, _⟩ := hcur h
            cases hx
            rw [hp] at hxp
            cases hxp
          · exact .inr ⟨rfl, Nat.le_antisymm (Nat.le_of_lt_succ hpi)
              (Nat.le_of_succ_le_succ (Nat.le_of_not_lt fun h => hb ⟨hp, h⟩))⟩
        refine ⟨⟨e.sq, (e.bb &&& mask).toSq, if e.promo then some .bishop else none⟩, _, ?_,
          hinv, ?_, rfl, hcl⟩
        · unfold next
          simp only [getElem?_split, List.head?_cons, hnext, setEntryBB_append, ite_index]
          rcases hpi' with ⟨hp, rfl⟩ | ⟨hp, rfl⟩ <;> rw [hp] <;> rfl
        · rw [under_split, hund, hstep]
          rcases hpi' with ⟨hp, rfl⟩ | ⟨hp, rfl⟩ <;> rw [hp] <;> rfl

theorem inv_next (g : MoveGen) (hI : Inv g) : Inv (next g).2 := by
  rcases next_cases g hI with ⟨h, _, _⟩ | ⟨m, g', h, hs⟩
  · rw [h]; exact hI
  · rw [h]; exact hs.inv

theorem next_spec (g : MoveGen) (hI : Inv g) (m : Move) (g' : MoveGen) (h : next g = (some m, g')) :
    under g = m :: under g' := by
  rcases next_cases g hI with ⟨h', _, _⟩ | ⟨m', g'', h', hs⟩
  · rw [h'] at h; cases h
  · rw [h'] at h; cases h; exact hs.under_eq

theorem next_none_iff (g : MoveGen) (hI : Inv g) : (next g).1 = none ↔ under g = [] := by
  rcases next_cases g hI with ⟨h', hu, _⟩ | ⟨m', g'', h', hs⟩
  · rw [h']; simp [hu]
  · rw [h', hs.under_eq]; simp

theorem next_mask (g : MoveGen) (hI : Inv g) : (next g).2.mask = g.mask := by
  rcases next_cases g hI with ⟨h, _, _⟩ | ⟨m, g', h, hs⟩
  · rw [h]
  · rw [h]; exact hs.mask_eq

/-! ### `len` -/

theorem lenFrom_eq (mask : BB) (l : List Entry) (h : Parted mask l) :
    lenFrom mask l = (allUnder l mask).length := by
  induction l with
  | nil => rfl
  | cons e l ih =>
    rw [parted_cons] at h
    rw [lenFrom]
    by_cases he : e.bb &&& mask = 0#64
    · rw [if_pos he] at h
      rw [if_pos he, allUnder_eq_nil (List.forall_mem_cons.mpr ⟨he, h⟩)]
      rfl
    · rw [if_neg he] at h
      rw [if_neg he, allUnder_cons, List.length_append, movesUnder_length, ih h]

theorem len_exact (g : MoveGen) (hI : Inv g) : len g = (under g).length := by
  unfold len under
  rw [List.length_drop, lenFrom_eq _ _ hI.part]

/-! ### draining -/

/-- the result of running `next` until it returns `None` -/
structure Drained (g : MoveGen) (r : List Move × MoveGen) : Prop where
  yields : r.1 = under g
  done : under r.2 = []
  inv : Inv r.2
  mask_eq : r.2.mask = g.mask
  promo0 : r.2.promoIdx = 0
  moves_eq : r.2.moves = g.moves.map (clearE g.mask)

theorem drainFuel_exact (n : Nat) : ∀ (g : MoveGen), Inv g → (under g).length < n →
    Drained g (drainFuel n g) := by
  induction n with
  | zero => intro g _ h; cases h
  | succ n ih =>
    intro g hI hn
    unfold drainFuel
    rcases next_cases g hI with ⟨h, hu, hall⟩ | ⟨m, g', h, hs⟩
    · rw [h]
      refine ⟨hu.symm, hu, hI, rfl, Nat.eq_zero_of_not_pos fun hpos => ?_, ?_⟩
      · obtain ⟨e, h1, _, h3⟩ := hI.cursor hpos
        exact h3 (hall e (List.mem_of_getElem? h1))
      · exact ((List.map_congr_left fun e he => clearE_of_empty g.mask e (hall e he)).trans
          (List.map_id _)).symm
    · rw [h]
      rw [hs.under_eq, List.length_cons] at hn
      obtain ⟨h1, h2, h3, h4, h5, h6⟩ := ih g' hs.inv (Nat.lt_of_succ_lt_succ hn)
      exact ⟨by rw [hs.under_eq, ← h1], h2, h3, h4.trans hs.mask_eq, h5,
        by rw [← hs.cleared, ← hs.mask_eq]; exact h6⟩

/-- the fuel of `drain` always suffices -/
theorem drain_exact (g : MoveGen) (hI : Inv g) : Drained g (drain g) :=
  drainFuel_exact _ g hI (Nat.lt_succ_of_le (by
    unfold under
    rw [List.length_drop]
    exact Nat.le_trans (Nat.sub_le _ _) (Nat.le_trans (allUnder_length_le _ _)
      (Nat.mul_le_mul_right _ (by rw [List.length_drop]; exact Nat.sub_le _ _)))))

/-! ### the partition loop of `set_iterator_mask` -/

theorem set_set_swap {α : Type} (A M R : List α) (x y : α) :
    ((A ++ x :: (M ++ y :: R)).set A.length y).set (A.length + (M.length + 1)) x =
      A ++ y :: (M ++ x :: R) := by
  rw [List.set_append_right _ _ (Nat.le_refl _), Nat.sub_self, List.set_cons_zero,
    List.set_append_right _ _ (Nat.le_add_right _ _), Nat.add_sub_cancel_left, List.set_cons_succ,
    List.set_append_right _ _ (Nat.le_refl _), Nat.sub_self, List.set_cons_zero]

/-- the scan with `A` (entries with a move under the mask) in front of the slot `i`, `Z` (entries
without) from the slot to the scan position, and `R` still to be scanned: `A` stays, the entries of `R`
with a move follow it, the others are rearranged behind -/
theorem partitionLoop_spec (mask : BB) : ∀ (R A Z : List Entry) (i j : Nat), i = A.length →
    j = A.length + Z.length → Z ≠ [] → (∀ e ∈ Z, e.bb &&& mask = 0#64) →
    ∃ F Z', (partitionLoop mask (A ++ (Z ++ R)) i (List.range' j R.length)).1 = A ++ (F ++ Z') ∧
      (∀ e ∈ F, e.bb &&& mask ≠ 0#64) ∧ (∀ e ∈ Z', e.bb &&& mask = 0#64) ∧ (F ++ Z').Perm (Z ++ R) := by
  intro R
  induction R with
  | nil => exact fun A Z i j _ _ _ hZ => ⟨[], Z, by rw [List.append_nil]; rfl, nofun, hZ,
      by rw [List.append_nil]; exact .refl _⟩
  | cons e R ih =>
    intro A Z i j hi hj hne hZ
    obtain ⟨z, Z0, rfl⟩ := List.exists_cons_of_ne_nil hne
    have hgi : (A ++ (z :: Z0 ++ e :: R))[i]? = some z := by
      rw [hi, List.getElem?_append_right (Nat.le_refl _), Nat.sub_self]; rfl
    have hgj : (A ++ (z :: Z0 ++ e :: R))[j]? = some e := by
      rw [hj, List.getElem?_append_right (Nat.le_add_right _ _), Nat.add_sub_cancel_left,
        List.getElem?_append_right (Nat.le_refl _), Nat.sub_self]; rfl
    rw [List.length_cons, List.range'_succ, partitionLoop]
    simp only [hgi, hgj]
    split
    · next hp =>
      obtain ⟨F, Z', h1, h2, h3, h4⟩ := ih (A ++ [e]) (Z0 ++ [z]) (i + 1) (j + 1)
        (by rw [hi, List.length_append]; rfl)
        (by rw [hj, List.length_append, List.length_append]; exact Nat.add_right_comm _ _ _)
        (by simp) (List.forall_mem_append.mpr ⟨fun x hx => hZ x (List.mem_cons_of_mem _ hx),
          List.forall_mem_singleton.mpr (hZ z List.mem_cons_self)⟩)
      refine ⟨e :: F, Z', ?_, List.forall_mem_cons.mpr ⟨hp, h2⟩, h3,
        ((h4.trans (List.perm_append_comm.append_right R)).cons e).trans List.perm_middle.symm⟩
      have hsw : ((A ++ z :: (Z0 ++ e :: R)).set i e).set j z = A ++ e :: (Z0 ++ z :: R) := by
        rw [hi, hj]; exact set_set_swap A Z0 R z e
      rw [List.cons_append, hsw]
      simpa only [List.append_assoc, List.cons_append, List.nil_append] using h1
    · next hp =>
      obtain ⟨F, Z', h1, h2, h3, h4⟩ := ih A (z :: Z0 ++ [e]) i (j + 1) hi
        (by rw [hj, List.length_append]; rfl) (by simp)
        (List.forall_mem_append.mpr ⟨hZ, List.forall_mem_singleton.mpr (Classical.not_not.mp hp)⟩)
      refine ⟨F, Z', ?_, h2, h3, by simpa only [List.append_assoc, List.cons_append, List.nil_append] using h4⟩
      simpa only [List.append_assoc, List.cons_append, List.nil_append] using h1

/-- the scan as `set_iterator_mask` starts it: behind a prefix `A` of entries with a move, at an entry
without one (if there is any) -/
theorem partitionLoop_start (mask : BB) (A D : List Entry) (hA : ∀ e ∈ A, e.bb &&& mask ≠ 0#64)
    (hD : ∀ z R, D = z :: R → z.bb &&& mask = 0#64) :
    Parted mask (partitionLoop mask (A ++ D) A.length
      ((List.range (A ++ D).length).drop (A.length + 1))).1 ∧
    (partitionLoop mask (A ++ D) A.length
      ((List.range (A ++ D).length).drop (A.length + 1))).1.Perm (A ++ D) := by
  cases D with
  | nil =>
    rw [List.drop_eq_nil_of_le (by rw [List.length_range, List.append_nil]; exact Nat.le_succ _)]
    exact ⟨⟨A, [], rfl, hA, nofun⟩, .refl _⟩
  | cons z R =>
    have hr : (List.range (A ++ z :: R).length).drop (A.length + 1) =
        List.range' (A.length + 1) R.length := by
      rw [List.range_eq_range', List.drop_range', List.length_append, List.length_cons, Nat.zero_add,
        Nat.add_sub_add_left, Nat.add_sub_cancel, Nat.mul_one]
    obtain ⟨F, Z', h1, h2, h3, h4⟩ := partitionLoop_spec mask R A [z] A.length (A.length + 1) rfl rfl
      (by simp) (List.forall_mem_singleton.mpr (hD z R rfl))
    rw [hr, show A ++ z :: R = A ++ ([z] ++ R) from rfl, h1]
    exact ⟨⟨A ++ F, Z', (List.append_assoc ..).symm, List.forall_mem_append.mpr ⟨hA, h2⟩, h3⟩,
      h4.append_left A⟩

/-- `set_iterator_mask` rearranges the entries so that those with a move under the new mask come first -/
theorem setIteratorMask_spec (g : MoveGen) (mask : BB) :
    Parted mask (setIteratorMask g mask).moves ∧ (setIteratorMask g mask).moves.Perm g.moves := by
  have h := partitionLoop_start mask (g.moves.takeWhile fun e => e.bb &&& mask ≠ 0#64)
    (g.moves.dropWhile fun e => e.bb &&& mask ≠ 0#64)
    (fun e he => of_decide_eq_true (List.all_eq_true.mp List.all_takeWhile e he))
    (fun z R h => by
      have := List.head?_dropWhile_not (fun e : Entry => decide (e.bb &&& mask ≠ 0#64)) g.moves
      rw [h] at this
      simpa using this)
  rw [List.takeWhile_append_dropWhile] at h
  exact h

/-! ### changing the mask -/

theorem inv_of_parted {l : List Entry} {mask : BB} {pi : Nat} (h0 : pi = 0) (h : Parted mask l) :
    Inv ⟨l, pi, mask, 0⟩ :=
  inv_split_iff (pre := []).mpr ⟨by rw [h0]; decide, nofun, h, fun hp => absurd hp (by rw [h0]; decide)⟩

theorem under_eq_allUnder (g : MoveGen) (hI : Inv g) (h0 : g.promoIdx = 0) :
    under g = allUnder g.moves g.mask := by
  unfold under
  rw [h0, List.drop_zero]
  conv => rhs; rw [← List.take_append_drop g.index g.moves, allUnder_append]
  rw [allUnder_eq_nil hI.before, List.nil_append]

theorem inv_setMask (g : MoveGen) (h0 : g.promoIdx = 0) (mask : BB) : Inv (setIteratorMask g mask) :=
  inv_of_parted h0 (setIteratorMask_spec g mask).1

theorem under_setMask (g : MoveGen) (h0 : g.promoIdx = 0) (mask : BB) :
    (under (setIteratorMask g mask)).Perm (allUnder g.moves mask) := by
  show ((allUnder (setIteratorMask g mask).moves mask).drop g.promoIdx).Perm _
  rw [h0]
  exact List.Perm.flatMap_right _ (setIteratorMask_spec g mask).2

theorem movesUnder_clearE (e : Entry) (A B : BB) :
    movesUnder (clearE A e) B = movesUnder e (B &&& ~~~A) := by
  unfold movesUnder clearE
  rw [BitVec.and_assoc, BitVec.and_comm (~~~A) B]

theorem allUnder_map_clearE (l : List Entry) (A B : BB) :
    allUnder (l.map (clearE A)) B = allUnder l (B &&& ~~~A) := by
  unfold allUnder
  rw [List.flatMap_map]
  simp only [movesUnder_clearE]

theorem allUnder_union_perm (l : List Entry) (A B : BB) :
    (allUnder l (A ||| B)).Perm (allUnder l A ++ allUnder l (B &&& ~~~A)) := by
  have h : ∀ e : Entry, (movesUnder e (A ||| B)).Perm (movesUnder e A ++ movesUnder e (B &&& ~~~A)) := by
    intro e
    unfold movesUnder
    rw [← List.flatMap_append, sqsOf_and, sqsOf_and, sqsOf_and]
    refine List.Perm.flatMap_right _ ((List.filter_append_perm (fun s => A.getLsbD s.val) _).symm.trans ?_)
    rw [List.filter_filter, List.filter_filter]
    refine (List.Perm.of_eq ?_).append (List.Perm.of_eq ?_) <;> refine List.filter_congr fun s _ => ?_
    · rw [BitVec.getLsbD_or]; cases A.getLsbD s.val <;> rfl
    · rw [BitVec.getLsbD_or, BitVec.getLsbD_and, BitVec.getLsbD_not, decide_eq_true s.isLt]
      cases A.getLsbD s.val <;> cases B.getLsbD s.val <;> rfl
  unfold allUnder
  induction l with
  | nil => exact .refl _
  | cons a as ih =>
    simp only [List.flatMap_cons]
    refine ((h a).append ih).trans ?_
    rw [List.append_assoc, List.append_assoc]
    exact (List.perm_append_comm_assoc _ _ _).append_left _

/-- drain under the current mask `A`, switch to mask `B`, drain again -/
theorem mask_partition (g : MoveGen) (hI : Inv g) (B : BB) :
    (drain g).1 = under g ∧
    (drain (setIteratorMask (drain g).2 B)).1.Perm (allUnder g.moves (B &&& ~~~g.mask)) ∧
    Inv (drain (setIteratorMask (drain g).2 B)).2 ∧
    under (drain (setIteratorMask (drain g).2 B)).2 = [] := by
  obtain ⟨h1, _, _, _, h5, h6⟩ := drain_exact g hI
  obtain ⟨k1, k2, k3, _, _, _⟩ := drain_exact _ (inv_setMask (drain g).2 h5 B)
  refine ⟨h1, ?_, k3, k2⟩
  rw [k1, ← allUnder_map_clearE, ← h6]
  exact under_setMask (drain g).2 h5 B

/-- … in total every move into `A ∪ B` exactly once -/
theorem mask_partition_total (g : MoveGen) (hI : Inv g) (h0 : g.promoIdx = 0) (B : BB) :
    ((drain g).1 ++ (drain (setIteratorMask (drain g).2 B)).1).Perm (allUnder g.moves (g.mask ||| B)) := by
  obtain ⟨h1, h2, _, _⟩ := mask_partition g hI B
  rw [h1, under_eq_allUnder g hI h0]
  exact (h2.append_left _).trans (allUnder_union_perm g.moves g.mask B).symm

/-! ### a sequence of masks, each drained -/

/-- for each mask in turn: `set_iterator_mask`, then call `next` until `None`; the yields per mask -/
def runMasks : MoveGen → List BB → List (List Move) × MoveGen
  | g, [] => ([], g)
  | g, B :: Bs =>
    ((drain (setIteratorMask g B)).1 :: (runMasks (drain (setIteratorMask g B)).2 Bs).1,
     (runMasks (drain (setIteratorMask g B)).2 Bs).2)

/-- what a sequence of masks must yield from the entries `l` when the squares `seen` are used up:
each mask gets the moves onto its squares not covered by an earlier mask -/
def seqExpected (l : List Entry) : BB → List BB → List (List Move)
  | _, [] => []
  | seen, B :: Bs => allUnder l (B &&& ~~~seen) :: seqExpected l (seen ||| B) Bs

/-- position-wise permutation of two lists of move lists -/
def PermAll : List (List Move) → List (List Move) → Prop
  | [], [] => True
  | a :: as, b :: bs => a.Perm b ∧ PermAll as bs
  | _, _ => False

theorem PermAll.flatten : ∀ {a b : List (List Move)}, PermAll a b → a.flatten.Perm b.flatten
  | [], [], _ => List.Perm.refl _
  | _ :: _, _ :: _, h => by
    simp only [List.flatten_cons]
    exact h.1.append (PermAll.flatten h.2)
  | [], _ :: _, h => h.elim
  | _ :: _, [], h => h.elim

theorem map_clearE_clearE (A B : BB) (l : List Entry) :
    (l.map (clearE A)).map (clearE B) = l.map (clearE (A ||| B)) := by
  rw [List.map_map]
  exact List.map_congr_left fun e _ => clearE_clearE A B e

theorem runMasks_spec : ∀ (Bs : List BB) (g : MoveGen) (l0 : List Entry) (seen : BB),
    g.promoIdx = 0 → g.moves.Perm (l0.map (clearE seen)) →
    PermAll (runMasks g Bs).1 (seqExpected l0 seen Bs) := by
  intro Bs
  induction Bs with
  | nil => exact fun _ _ _ _ _ => trivial
  | cons B Bs ih =>
    intro g l0 seen h0 hp
    obtain ⟨d1, _, _, _, d5, d6⟩ := drain_exact _ (inv_setMask g h0 B)
    refine ⟨?_, ih _ l0 (seen ||| B) d5 ?_⟩
    · show (drain (setIteratorMask g B)).1.Perm (allUnder l0 (B &&& ~~~seen))
      rw [d1, ← allUnder_map_clearE]
      exact (under_setMask g h0 B).trans (List.Perm.flatMap_right _ hp)
    · rw [d6, ← map_clearE_clearE]
      exact (((setIteratorMask_spec g B).2.trans hp).map (clearE B))

theorem seqExpected_flatten (l : List Entry) : ∀ (Bs : List BB) (seen : BB),
    (seqExpected l seen Bs).flatten.Perm (allUnder (l.map (clearE seen)) (Bs.foldr (· ||| ·) 0#64)) := by
  intro Bs
  induction Bs with
  | nil => exact fun seen => by rw [List.foldr_nil, allUnder_eq_nil fun e _ => BitVec.and_zero]; exact .refl _
  | cons B Bs ih =>
    intro seen
    have := ih (seen ||| B)
    rw [← map_clearE_clearE, allUnder_map_clearE] at this
    simp only [seqExpected, List.flatten_cons, List.foldr_cons]
    rw [← allUnder_map_clearE l seen B]
    exact (this.append_left _).trans (allUnder_union_perm _ _ _).symm

/-- a generator (not in the middle of a promotion) run through any sequence of masks: the yields of
the `k`-th mask are the moves onto its squares not covered by earlier masks, and in total every
move onto the union of the masks is yielded exactly once -/
theorem runMasks_total (g : MoveGen) (h0 : g.promoIdx = 0) (Bs : List BB) :
    PermAll (runMasks g Bs).1 (seqExpected g.moves 0#64 Bs) ∧
    (runMasks g Bs).1.flatten.Perm (allUnder g.moves (Bs.foldr (· ||| ·) 0#64)) := by
  have h0' : g.moves.map (clearE 0#64) = g.moves :=
    (List.map_congr_left fun e _ => clearE_zero e).trans (List.map_id _)
  have h1 := runMasks_spec Bs g g.moves 0#64 h0 (by rw [h0'])
  have h2 := seqExpected_flatten g.moves Bs 0#64
  rw [h0'] at h2
  exact ⟨h1, (PermAll.flatten h1).trans h2⟩

/-! ### removals -/

/-- the entry map of `remove_move` -/
def rmEntry (m : Move) (e : Entry) : Entry :=
  if e.sq = m.src then { e with bb := e.bb &&& ~~~(BB.ofSq m.dst) } else e

theorem filter_flatMap_of_all {α β : Type} (l : List α) (f : α → List β) (p : β → Bool) (q : α → Bool)
    (h : ∀ a, ∀ b ∈ f a, p b = q a) : (l.flatMap f).filter p = (l.filter q).flatMap f := by
  induction l with
  | nil => rfl
  | cons a as ih =>
    rw [List.flatMap_cons, List.filter_append, ih, List.filter_cons]
    cases hq : q a with
    | true => rw [List.filter_eq_self.mpr fun b hb => by rw [h a b hb, hq]]; rfl
    | false => rw [List.filter_eq_nil_iff.mpr fun b hb => by rw [h a b hb, hq]; exact Bool.false_ne_true]; rfl

theorem movesUnder_filter_dst (r : BB) (e : Entry) (mask : BB) :
    (movesUnder e mask).filter (fun x => !r.getLsbD x.dst.val) = movesUnder (clearE r e) mask := by
  rw [movesUnder_clearE]
  unfold movesUnder
  rw [← BitVec.and_assoc, sqsOf_and (e.bb &&& mask) (~~~r)]
  exact filter_flatMap_of_all _ _ _ _ fun d x hx => by
    rw [(mem_expand.mp hx).2.1, BitVec.getLsbD_not, decide_eq_true d.isLt, Bool.true_and]

theorem movesUnder_filter_move (m : Move) (e : Entry) (mask : BB) :
    (movesUnder e mask).filter (fun x => !(decide (x.src = m.src) && decide (x.dst = m.dst))) =
      movesUnder (rmEntry m e) mask := by
  unfold rmEntry
  split
  · next hs =>
    refine (List.filter_congr fun x hx => ?_).trans (movesUnder_filter_dst (BB.ofSq m.dst) e mask)
    rw [BB.getLsbD_ofSq, (mem_movesUnder.mp hx).1, decide_eq_true hs, Bool.true_and]
    exact congrArg _ (decide_eq_decide.mpr Fin.ext_iff)
  · next hs =>
    refine List.filter_eq_self.mpr fun x hx => ?_
    rw [(mem_movesUnder.mp hx).1, decide_eq_false hs]
    rfl

/-- `remove_mask` and `remove_move` change every entry by some `f` and partition again: if `f` removes
from each entry the moves rejected by `p`, the generator loses exactly those -/
theorem allUnder_filter {f : Entry → Entry} {p : Move → Bool}
    (hf : ∀ e mask, (movesUnder e mask).filter p = movesUnder (f e) mask) (l : List Entry) (mask : BB) :
    (allUnder l mask).filter p = allUnder (l.map f) mask := by
  unfold allUnder
  rw [List.filter_flatMap, List.flatMap_map]
  simp only [hf]

theorem under_setMask_map (g : MoveGen) (hI : Inv g) (h0 : g.promoIdx = 0) {f : Entry → Entry}
    {p : Move → Bool} (hf : ∀ e mask, (movesUnder e mask).filter p = movesUnder (f e) mask) :
    (under (setIteratorMask { g with moves := g.moves.map f } g.mask)).Perm ((under g).filter p) := by
  rw [under_eq_allUnder g hI h0, allUnder_filter hf]
  exact under_setMask _ (by exact h0) _

/-- … and they stay lost, whatever masks follow -/
theorem map_then_masks (g : MoveGen) (h0 : g.promoIdx = 0) {f : Entry → Entry}
    {p : Move → Bool} (hf : ∀ e mask, (movesUnder e mask).filter p = movesUnder (f e) mask) (Bs : List BB) :
    (runMasks (setIteratorMask { g with moves := g.moves.map f } g.mask) Bs).1.flatten.Perm
      ((allUnder g.moves (Bs.foldr (· ||| ·) 0#64)).filter p) := by
  rw [allUnder_filter hf]
  exact (runMasks_total _ (by exact h0) Bs).2.trans (List.Perm.flatMap_right _ (setIteratorMask_spec _ _).2)

theorem inv_removeMask (g : MoveGen) (h0 : g.promoIdx = 0) (r : BB) : Inv (removeMask g r) :=
  inv_setMask _ (by exact h0) _

theorem removeMask_mask (g : MoveGen) (r : BB) : (removeMask g r).mask = g.mask := rfl

theorem under_removeMask (g : MoveGen) (hI : Inv g) (h0 : g.promoIdx = 0) (r : BB) :
    (under (removeMask g r)).Perm ((under g).filter fun x => !r.getLsbD x.dst.val) :=
  under_setMask_map g hI h0 (movesUnder_filter_dst r)

theorem removeMask_then_masks (g : MoveGen) (h0 : g.promoIdx = 0) (r : BB) (Bs : List BB) :
    (runMasks (removeMask g r) Bs).1.flatten.Perm
      ((allUnder g.moves (Bs.foldr (· ||| ·) 0#64)).filter fun x => !r.getLsbD x.dst.val) :=
  map_then_masks g h0 (movesUnder_filter_dst r) Bs

theorem inv_removeMove (g : MoveGen) (h0 : g.promoIdx = 0) (m : Move) : Inv (removeMove g m).1 :=
  inv_setMask _ (by exact h0) _

theorem removeMove_mask (g : MoveGen) (m : Move) : (removeMove g m).1.mask = g.mask := rfl

theorem under_removeMove (g : MoveGen) (hI : Inv g) (h0 : g.promoIdx = 0) (m : Move) :
    (under (removeMove g m).1).Perm
      ((under g).filter fun x => !(decide (x.src = m.src) && decide (x.dst = m.dst))) :=
  under_setMask_map g hI h0 (movesUnder_filter_move m)

theorem removeMove_then_masks (g : MoveGen) (h0 : g.promoIdx = 0) (m : Move) (Bs : List BB) :
    (runMasks (removeMove g m).1 Bs).1.flatten.Perm
      ((allUnder g.moves (Bs.foldr (· ||| ·) 0#64)).filter
        fun x => !(decide (x.src = m.src) && decide (x.dst = m.dst))) :=
  map_then_masks g h0 (movesUnder_filter_move m) Bs

theorem removeMove_flag (g : MoveGen) (m : Move) :
    (removeMove g m).2 = true ↔ ∃ e ∈ g.moves, e.sq = m.src := by
  show (g.moves.any fun e => e.sq = m.src) = true ↔ _
  simp

/-! ### reachable states -/

theorem inv_fresh (l : List Entry) (h : ∀ e ∈ l, e.bb ≠ 0#64) :
    Inv { moves := l, promoIdx := 0, mask := ~~~0#64, index := 0 } :=
  inv_of_parted rfl ⟨l, [], (List.append_nil l).symm, fun e he => by rw [and_allOnes]; exact h e he, nofun⟩

/-- the states of a generator built from the entry list of some board (or any list of non-empty
entries) by the operations in scope -/
inductive Reach : MoveGen → Prop
  | fresh (l : List Entry) : (∀ e ∈ l, e.bb ≠ 0#64) → Reach { moves := l, promoIdx := 0, mask := ~~~0#64, index := 0 }
  | next (g : MoveGen) : Reach g → Reach (next g).2
  | setMask (g : MoveGen) (m : BB) : Reach g → g.promoIdx = 0 → Reach (setIteratorMask g m)
  | removeMask (g : MoveGen) (r : BB) : Reach g → g.promoIdx = 0 → Reach (removeMask g r)
  | removeMove (g : MoveGen) (m : Move) : Reach g → g.promoIdx = 0 → Reach (removeMove g m).1

theorem reach_inv {g : MoveGen} (h : Reach g) : Inv g := by
  induction h with
  | fresh l hl => exact inv_fresh l hl
  | next g _ ih => exact inv_next g ih
  | setMask g m _ h0 _ => exact inv_setMask g h0 m
  | removeMask g r _ h0 _ => exact inv_removeMask g h0 r
  | removeMove g m _ h0 _ => exact inv_removeMove g h0 m

/-- all moves of an entry list: every destination of every entry, promotions fourfold -/
def allMoves (l : List Entry) : List Move := allUnder l (~~~0#64)

/-! ### the invariant by indices (the wording of DESIGN Appendix C) -/

def InvIdx (g : MoveGen) : Prop :=
  g.promoIdx < 4 ∧
  (∀ i, i < g.index → ∀ e, g.moves[i]? = some e → e.bb &&& g.mask = 0#64) ∧
  (∃ k, g.index ≤ k ∧
    (∀ i, g.index ≤ i → i < k → ∃ e, g.moves[i]? = some e ∧ e.bb &&& g.mask ≠ 0#64) ∧
    (∀ i, k ≤ i → ∀ e, g.moves[i]? = some e → e.bb &&& g.mask = 0#64)) ∧
  (0 < g.promoIdx → ∃ e, g.moves[g.index]? = some e ∧ e.promo = true ∧ e.bb &&& g.mask ≠ 0#64)

theorem inv_iff_invIdx (g : MoveGen) : Inv g ↔ InvIdx g := by
  have hdrop : ∀ i, g.index ≤ i → (g.moves.drop g.index)[i - g.index]? = g.moves[i]? := fun i hi => by
    rw [List.getElem?_drop, Nat.add_sub_cancel' hi]
  constructor
  · rintro ⟨h1, h2, ⟨mid, post, hs, hmid, hpost⟩, h4⟩
    refine ⟨h1, fun i hi e he => h2 e (List.mem_iff_getElem?.mpr ⟨i, by rwa [List.getElem?_take_of_lt hi]⟩),
      ⟨g.index + mid.length, Nat.le_add_right _ _, fun i hi1 hi2 => ?_, fun i hi e he => ?_⟩, h4⟩
    · have hlt : i - g.index < mid.length := Nat.sub_lt_left_of_lt_add hi1 hi2
      refine ⟨mid[i - g.index], ?_, hmid _ (List.getElem_mem hlt)⟩
      rw [← hdrop i hi1, hs, List.getElem?_append_left hlt, List.getElem?_eq_getElem hlt]
    · rw [← hdrop i (Nat.le_trans (Nat.le_add_right _ _) hi), hs,
        List.getElem?_append_right (Nat.le_sub_of_add_le' hi)] at he
      exact hpost e (List.mem_of_getElem? he)
  · rintro ⟨h1, h2, ⟨k, hk, hA, hB⟩, h4⟩
    refine ⟨h1, fun e he => ?_, ⟨(g.moves.drop g.index).take (k - g.index),
      (g.moves.drop g.index).drop (k - g.index), (List.take_append_drop _ _).symm, fun e he => ?_,
      fun e he => ?_⟩, h4⟩
    · obtain ⟨i, hi⟩ := List.mem_iff_getElem?.mp he
      rw [List.getElem?_take] at hi
      split at hi
      · exact h2 i ‹_› e hi
      · cases hi
    · obtain ⟨j, hj⟩ := List.mem_iff_getElem?.mp he
      rw [List.getElem?_take] at hj
      split at hj
      · obtain ⟨e', he', hne⟩ := hA (g.index + j) (Nat.le_add_right _ _) (Nat.add_lt_of_lt_sub' ‹_›)
        rw [List.getElem?_drop, he'] at hj
        cases hj
        exact hne
      · cases hj
    · obtain ⟨j, hj⟩ := List.mem_iff_getElem?.mp he
      rw [List.getElem?_drop, List.getElem?_drop] at hj
      exact hB _ (by rw [← Nat.add_assoc, Nat.add_sub_cancel' hk]; exact Nat.le_add_right _ _) e hj

end Iter
end Chess
