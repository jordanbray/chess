import ChessVerif.Lemmas.Text
/-!
The SAN move loop (`San.loop`, the `for m in &mut MoveGen::new_legal(board)` loop of
`ChessMove::from_san`) in closed form, the list facts it is read through, and the castling branch of
`San.fromSan`.  The statements of record are in `Props/TextTotal.lean`.
-/
namespace Chess
namespace San

/-! ### lists -/

theorem mem_dropWhile_of_not {α} (p : α → Bool) : ∀ (l : List α) (x : α),
    x ∈ l → p x = false → x ∈ l.dropWhile p
  | y :: ys, x, hx, hp => by
    rw [List.dropWhile_cons]
    split
    · rename_i hy
      rcases List.mem_cons.1 hx with rfl | h
      · rw [hp] at hy; cases hy
      · exact mem_dropWhile_of_not p ys x h hp
    · exact hx

theorem dropWhile_eq_nil {α} (p : α → Bool) (l : List α) :
    l.dropWhile p = [] ↔ ∀ x ∈ l, p x = true := by
  refine ⟨fun h => ?_, fun h => ?_⟩
  · have := List.takeWhile_append_dropWhile (p := p) (l := l)
    rw [h, List.append_nil] at this
    rw [← this]
    exact List.all_eq_true.1 List.all_takeWhile
  · have := List.dropWhile_append_of_pos (p := p) (l₂ := []) h
    rwa [List.append_nil] at this

theorem dropWhile_eq_singleton {α} (p : α → Bool) (l : List α) (m : α) :
    l.dropWhile p = [m] ↔ ∃ pre, l = pre ++ [m] ∧ (∀ x ∈ pre, p x = true) ∧ p m = false := by
  refine ⟨fun h => ⟨l.takeWhile p, ?_, List.all_eq_true.1 List.all_takeWhile, ?_⟩, ?_⟩
  · rw [← h, List.takeWhile_append_dropWhile]
  · have := List.head?_dropWhile_not p l
    rwa [h] at this
  · rintro ⟨pre, rfl, h1, h2⟩
    rw [List.dropWhile_append_of_pos h1, List.dropWhile_cons_of_neg (by simp [h2])]

theorem filter_eq_singleton {α} [DecidableEq α] (p : α → Bool) (l : List α) (m : α)
    (hnd : l.Nodup) (hm : m ∈ l) (hp : p m = true) (hu : ∀ x ∈ l, p x = true → x = m) :
    l.filter p = [m] := by
  have hmem : m ∈ l.filter p := List.mem_filter.2 ⟨hm, hp⟩
  have hnd' : (l.filter p).Nodup := hnd.filter p
  obtain ⟨n, hr⟩ : ∃ n, l.filter p = List.replicate n m :=
    ⟨_, List.eq_replicate_iff.2 ⟨rfl, fun x hx => let h := List.mem_filter.1 hx; hu x h.1 h.2⟩⟩
  rw [hr] at hnd' hmem ⊢
  rw [List.nodup_replicate] at hnd'
  rw [List.mem_replicate] at hmem
  obtain rfl : n = 1 := by omega
  rfl

/-! ### the move loop -/

variable (b : Board) (f : Fields)

/-- once a move has been found, any further base match is an error -/
theorem loop_some : ∀ (l : List Move) (m0 : Move),
    loop b f l (some m0) = if l.filter (baseMatch b f) = [] then some (some m0) else none
  | [], m0 => by simp [loop]
  | x :: xs, m0 => by
    by_cases hx : baseMatch b f x = true
    · simp [loop, hx]
    · simp [loop, hx, loop_some xs m0]

/-- exact description of the loop started with `found = None`: drop the non-matching moves, drop the
leading base matches that the capture filter skips; nothing left = not found (`some none`), exactly
one left = that move, more than one left = `Err` from inside the loop (`none`). -/
theorem loop_none_eq : ∀ (l : List Move),
    loop b f l none =
      match (l.filter (baseMatch b f)).dropWhile (takesSkip b f) with
      | [] => some none
      | [m] => some (some m)
      | _ :: _ :: _ => none
  | [] => by simp [loop]
  | x :: xs => by
    by_cases hx : baseMatch b f x = true
    · by_cases hs : takesSkip b f x = true
      · simp [loop, hx, hs, loop_none_eq xs]
      · simp only [loop, hx, hs, Bool.not_true, Bool.false_eq_true, if_false, Option.isSome_none,
          List.filter_cons, if_true, List.dropWhile_cons, loop_some]
        cases List.filter (baseMatch b f) xs <;> simp
    · simp [loop, hx, loop_none_eq xs]

/-- what the castling branch of `from_san` accepts: exactly the generated move from the e-file home square
two files to the right / left, and only when the man on that square is the king -/
theorem fromSan_castle_ok_iff (T : Tables) (s : List Char) (m : Move)
    (hc : castleText s = "O-O".toList ∨ castleText s = "O-O-O".toList) :
    fromSan T b s = .ok m ↔
      (b.pieceOn m.src = some .king ∧ m ∈ b.legalMoves T ∧
        m = ⟨mkSq b.stm.backrank 4,
             mkSq b.stm.backrank (if castleText s = "O-O".toList then 6 else 2), none⟩) := by
  have aux : ∀ (c : Bool) (x : Move),
      (if c = true then Res.ok x else Res.err) = Res.ok m ↔ c = true ∧ m = x := by
    intro c x; cases c <;> simp [eq_comm]
  unfold fromSan
  simp only [if_pos hc]
  rw [aux, Bool.and_eq_true, beq_iff_eq, List.contains_iff_mem]
  exact ⟨fun ⟨⟨hk, hm⟩, he⟩ => by subst he; exact ⟨hk, hm, rfl⟩,
    fun ⟨hk, hm, he⟩ => by subst he; exact ⟨⟨hk, hm⟩, rfl⟩⟩

end San
end Chess
