import ChessVerif.Lemmas.TextTotal
import ChessVerif.Spec.San
import ChessVerif.Props.TextTotal
import ChessVerif.Refine.Abs
import ChessVerif.Lemmas.Core
import ChessVerif.Lemmas.Plausible
/-!
The SAN scanner (`San.scan`, the part of `ChessMove::from_san` before the move loop) inverts the
documented SAN writer (`SanSpec.spell`), and what follows from that for `San.fromSan` on a board whose
generated moves are the legal ones.
-/
namespace Chess
namespace San

/-! ### one-byte characters: the byte cursor is the list index -/

theorem get1_nil (i : Nat) : get1 [] i = none := by
  unfold get1 Str.get
  simp only [Nat.le_add_right, if_true, Str.dropBytes_nil]
  cases i <;> simp [Str.takeBytes_nil]

theorem getFrom_zero (s : List Char) : Str.getFrom s 0 = some s := Str.dropBytes_zero s

section
variable (c : Char) (r : List Char) (h : c.utf8Size = 1)
include h

theorem get1_cons_zero : get1 (c :: r) 0 = some c := by
  unfold get1
  rw [Str.get_zero, Str.takeBytes_cons]
  simp [h, Str.takeBytes_zero]

theorem get_cons_succ (i j : Nat) :
    Str.get (c :: r) (i + 1) (j + 1) = Str.get r i j := by
  have := Str.get_append [c] r i j
  simp only [Str.len_cons, Str.len_nil, h, List.singleton_append] at this
  rw [← this, Nat.add_comm 1 i, Nat.add_comm 1 j]

theorem get1_cons_succ (i : Nat) :
    get1 (c :: r) (i + 1) = get1 r i := by
  unfold get1
  rw [get_cons_succ c r h]

theorem getFrom_cons_succ (i : Nat) :
    Str.getFrom (c :: r) (i + 1) = Str.getFrom r i := by
  unfold Str.getFrom
  rw [Str.dropBytes_cons]
  simp [h]

end

theorem get_two (a b : Char) (r : List Char) (ha : a.utf8Size = 1) (hb : b.utf8Size = 1) :
    Str.get (a :: b :: r) 0 2 = some [a, b] := by
  have := Str.takeBytes_append [a, b] r
  simp only [Str.len_cons, Str.len_nil, ha, hb] at this
  rw [Str.get_zero]
  exact this

theorem get_two_nil : Str.get [] 0 2 = none := by
  rw [Str.get_zero, Str.takeBytes_nil]; simp
theorem get_two_single (a : Char) (ha : a.utf8Size = 1) : Str.get [a] 0 2 = none := by
  rw [Str.get_zero, Str.takeBytes_cons]
  simp [ha, Str.takeBytes_nil]

/-! ### the scanner in stages -/

/-- one optional character of a class: the stage
`match cls c with | some a => (some a, cur + 1) | none => (none, cur)` -/
def optAt {α} (cls : Char → Option α) (s : List Char) (cur : Nat) : Option (Option α × Nat) :=
  (get1 s cur).map fun c => match cls c with | some a => (some a, cur + 1) | none => (none, cur)

def promoAt (s : List Char) (cur : Nat) : Option Piece × Nat :=
  match (get1 s cur).bind promoOfLetter? with
  | some p => (some p, cur + 1) | none => (none, cur)
def sfxAt (s : List Char) (cur : Nat) : Nat :=
  match get1 s cur with | some '+' => cur + 1 | some '#' => cur + 1 | _ => cur
def epAt (s : List Char) (cur : Nat) : Bool :=
  match Str.getFrom s cur with | some rest => rest == " e.p.".toList | none => false
def tailScan (s : List Char) (cur : Nat) : Option Piece × Bool :=
  ((promoAt s cur).1, epAt s (sfxAt s (promoAt s cur).2))

def takesAt (s : List Char) (cur : Nat) : Bool × Nat :=
  match get1 s cur with | some 'x' => (true, cur + 1) | _ => (false, cur)

def destAt (s : List Char) (srcFile srcRank : Option (Fin 8)) (cur : Nat) :
    Option (Sq × Option (Fin 8) × Option (Fin 8) × Nat) :=
  let fromSource : Option (Sq × Option (Fin 8) × Option (Fin 8) × Nat) :=
    match srcRank, srcFile with
    | some r, some f => some (mkSq r f, none, none, cur)
    | _, _ => none
  match Str.get s cur (cur + 2) with
  | some t =>
    match parseSquare t with
    | .ok q => some (q, srcFile, srcRank, cur + 2)
    | _ => fromSource
  | none => fromSource

/-- everything after the piece letter -/
def bodyAt (s : List Char) (cur : Nat) :
    Option (Option (Fin 8) × Option (Fin 8) × Bool × Sq × Option Piece × Bool) :=
  (optAt charFile? s cur).bind fun (srcFile, cur) =>
  (optAt charRank? s cur).bind fun (srcRank, cur) =>
  (destAt s srcFile srcRank (takesAt s cur).2).map fun (dest, srcFile, srcRank, cur') =>
    (srcFile, srcRank, (takesAt s cur).1, dest, tailScan s cur')

def pieceAt (s : List Char) : Option (Piece × Nat) :=
  (get1 s 0).map fun c0 => match pieceOfLetter? c0 with | some p => (p, 1) | none => (Piece.pawn, 0)

theorem scan_eq (s : List Char) : scan s =
    (pieceAt s).bind fun (piece, cur) =>
    (bodyAt s cur).map fun (srcFile, srcRank, takes, dest, promo, ep) =>
      ⟨piece, srcFile, srcRank, takes, dest, promo, ep⟩ := by
  unfold scan bodyAt optAt pieceAt destAt takesAt tailScan promoAt sfxAt epAt
  dsimp only
  cases get1 s 0 with
  | none => rfl
  | some c0 =>
    dsimp only [Option.map_some, Option.bind_some]
    cases pieceOfLetter? c0 <;> dsimp only [Nat.zero_add] <;>
    (cases get1 s _ with
     | none => rfl
     | some c1 =>
      dsimp only [Option.map_some, Option.bind_some]
      cases charFile? c1 <;> dsimp only [Nat.zero_add] <;>
      (cases get1 s _ with
       | none => rfl
       | some c2 =>
        dsimp only [Option.map_some, Option.bind_some]
        cases charRank? c2 <;> dsimp only [Nat.zero_add] <;>
        (cases Str.get s _ _ with
         | none => rfl
         | some t => dsimp only; cases parseSquare t <;> rfl)))

def withPiece (pc : Piece) : Option (Fin 8) × Option (Fin 8) × Bool × Sq × Option Piece × Bool → Fields
  | (srcFile, srcRank, takes, dest, promo, ep) => ⟨pc, srcFile, srcRank, takes, dest, promo, ep⟩

/-! ### each stage on a text that begins with a one-byte character -/

theorem takesAt_x (r : List Char) : takesAt ('x' :: r) 0 = (true, 1) := by
  unfold takesAt
  rw [get1_cons_zero _ _ (by decide)]
  rfl

section
variable (c : Char) (r : List Char) (h : c.utf8Size = 1)
include h

theorem pieceAt_cons :
    pieceAt (c :: r) = some (match pieceOfLetter? c with | some p => (p, 1) | none => (Piece.pawn, 0)) := by
  simp only [pieceAt, get1_cons_zero c r h, Option.map_some]

theorem optAt_cons_zero {α} (cls : Char → Option α) :
    optAt cls (c :: r) 0 = some (match cls c with | some a => (some a, 1) | none => (none, 0)) := by
  simp only [optAt, get1_cons_zero c r h, Option.map_some, Nat.zero_add]

theorem optAt_cons_succ {α} (cls : Char → Option α) (i : Nat) :
    optAt cls (c :: r) (i + 1) = (optAt cls r i).map fun x => (x.1, x.2 + 1) := by
  simp only [optAt, get1_cons_succ c r h, Option.map_map]
  congr 1; funext c1; simp only [Function.comp]; split <;> rfl

theorem takesAt_cons_zero (hx : c ≠ 'x') :
    takesAt (c :: r) 0 = (false, 0) := by
  unfold takesAt
  rw [get1_cons_zero c r h]
  split
  · rename_i h'; exact absurd (Option.some.inj h') hx
  · rfl

theorem takesAt_cons_succ (i : Nat) :
    takesAt (c :: r) (i + 1) = ((takesAt r i).1, (takesAt r i).2 + 1) := by
  unfold takesAt
  rw [get1_cons_succ c r h]
  split <;> rfl

theorem tailScan_cons_succ (i : Nat) :
    tailScan (c :: r) (i + 1) = tailScan r i := by
  have hp : promoAt (c :: r) (i + 1) = ((promoAt r i).1, (promoAt r i).2 + 1) := by
    unfold promoAt
    rw [get1_cons_succ c r h]
    cases (get1 r i).bind promoOfLetter? <;> rfl
  have hs : ∀ j, sfxAt (c :: r) (j + 1) = sfxAt r j + 1 := fun j => by
    unfold sfxAt
    rw [get1_cons_succ c r h]
    split <;> rfl
  unfold tailScan epAt
  rw [hp, hs, getFrom_cons_succ c r h]

theorem destAt_cons_succ (sf sr : Option (Fin 8)) (i : Nat) :
    destAt (c :: r) sf sr (i + 1) = (destAt r sf sr i).map fun x => (x.1, x.2.1, x.2.2.1, x.2.2.2 + 1) := by
  unfold destAt
  have : i + 1 + 2 = (i + 2) + 1 := by omega
  simp only [this, get_cons_succ c r h]
  cases Str.get r i (i + 2) with
  | none => dsimp only; cases sr <;> cases sf <;> rfl
  | some t => dsimp only; cases parseSquare t <;> dsimp only <;> cases sr <;> cases sf <;> rfl

theorem bodyAt_cons_succ (i : Nat) :
    bodyAt (c :: r) (i + 1) = bodyAt r i := by
  unfold bodyAt
  simp only [optAt_cons_succ c r h, takesAt_cons_succ c r h, destAt_cons_succ c r h,
    tailScan_cons_succ c r h, Option.bind_map, Option.map_map, Function.comp_def]

theorem scan_cons :
    scan (c :: r) = match pieceOfLetter? c with
      | some pc => (bodyAt r 0).map (withPiece pc)
      | none => (bodyAt (c :: r) 0).map (withPiece .pawn) := by
  rw [scan_eq, pieceAt_cons c r h]
  cases pieceOfLetter? c
  · rfl
  · exact congrArg (Option.map _) (bodyAt_cons_succ c r h 0)

end

open SanSpec

theorem fileCh_eq (s : Sq) : fileCh s = fileChar s.getFile := rfl
theorem rankCh_eq (s : Sq) : rankCh s = rankChar s.getRank := rfl
theorem sqName_eq (s : Sq) : Fen.sqName s = showSquare s := sqName_eq_showSquare s

/-- the source parts spelled by a disambiguation -/
def disambFile (d : Disamb) (src : Sq) : Option (Fin 8) :=
  match d with | .file => some src.getFile | .both => some src.getFile | _ => none
def disambRank (d : Disamb) (src : Sq) : Option (Fin 8) :=
  match d with | .rank => some src.getRank | .both => some src.getRank | _ => none

/-- what may follow the destination: no `x`, and nothing that reads as a square -/
def TailOK (T : List Char) : Prop := takesAt T 0 = (false, 0) ∧ destAt T none none 0 = none

theorem destAt_square (q : Sq) (r : List Char) (sf sr : Option (Fin 8)) :
    destAt (fileChar q.getFile :: rankChar q.getRank :: r) sf sr 0 = some (q, sf, sr, 2) := by
  unfold destAt
  rw [Nat.zero_add, show Str.get (_ :: _ :: r) 0 2 = _ from get_src q r]
  simp only [parseSquare_showSquare]

/-- nothing that parses as a square follows: the "source" is the destination -/
theorem destAt_back (T : List Char) (f r : Fin 8) (h : destAt T none none 0 = none) :
    destAt T (some f) (some r) 0 = some (mkSq r f, none, none, 0) := by
  unfold destAt at h ⊢
  cases hg : Str.get T 0 (0 + 2) with
  | none => rfl
  | some t =>
    simp only [hg] at h
    cases hp : parseSquare t <;> simp only [hp] at h ⊢
    cases h

theorem charRank?_fileChar : ∀ f : Fin 8, charRank? (fileChar f) = none := by decide
theorem charFile?_rankChar : ∀ r : Fin 8, charFile? (rankChar r) = none := by decide
theorem fileChar_ne_x : ∀ f : Fin 8, fileChar f ≠ 'x' := by decide

/-- the text between the piece letter and the tail -/
def midText (d : Disamb) (src : Sq) (cap : Bool) (dest : Sq) : List Char :=
  disambText d src ++ (if cap then ['x'] else []) ++ Fen.sqName dest

theorem bodyAt_midText (d : Disamb) (src : Sq) (cap : Bool) (dest : Sq) (T : List Char) (hT : TailOK T) :
    bodyAt (midText d src cap dest ++ T) 0 =
      some (disambFile d src, disambRank d src, cap, dest, tailScan T 0) := by
  have hx : 'x'.utf8Size = 1 := by decide
  have hx2 : charFile? 'x' = none := by decide
  have hx3 : charRank? 'x' = none := by decide
  have hT2 := fun f r => destAt_back T f r hT.2
  unfold bodyAt
  cases d <;> cases cap <;>
    simp [midText, disambText, disambFile, disambRank, sqName_eq, showSquare, fileCh_eq, rankCh_eq,
      optAt_cons_zero, optAt_cons_succ, takesAt_x, takesAt_cons_zero, takesAt_cons_succ,
      destAt_cons_succ, destAt_square, tailScan_cons_succ, fileChar_size, rankChar_size, hx, hx2, hx3,
      hT.1, hT2, charFile?_fileChar, charRank?_rankChar, charRank?_fileChar, charFile?_rankChar,
      fileChar_ne_x, mkSq_getRank_getFile]

def tailText (promo : Option Piece) (sfx : Suffix) (epMark : Bool) : List Char :=
  (match promo with | some q => [promoLetter q] | Option.none => []) ++ suffixText sfx ++
  (if epMark then " e.p.".toList else [])

/-- the thirty tails, by evaluation -/
theorem tailText_spec (promo : Option Piece) (sfx : Suffix) (epMark : Bool)
    (hp : promo ∈ [none, some .queen, some .rook, some .bishop, some .knight]) :
    TailOK (tailText promo sfx epMark) ∧ tailScan (tailText promo sfx epMark) 0 = (promo, epMark) := by
  unfold TailOK
  simp only [List.mem_cons, List.not_mem_nil, or_false] at hp
  rcases hp with h | h | h | h | h <;> subst h <;> cases sfx <;> cases epMark <;> decide +kernel

/-! ### the scanner inverts the writer -/

/-- the text `SanSpec.spell` assembles, over explicit components -/
def spellText (pc : Piece) (d : Disamb) (src : Sq) (cap : Bool) (dest : Sq) (promo : Option Piece)
    (sfx : Suffix) (epMark : Bool) : List Char :=
  (match pieceLetter? pc with | some c => [c] | Option.none => []) ++
  disambText d src ++
  (if cap then ['x'] else []) ++
  Fen.sqName dest ++
  (match promo with | some q => [promoLetter q] | Option.none => []) ++
  suffixText sfx ++
  (if epMark then " e.p.".toList else [])

theorem spellText_eq (pc : Piece) (d : Disamb) (src : Sq) (cap : Bool) (dest : Sq) (promo : Option Piece)
    (sfx : Suffix) (epMark : Bool) :
    spellText pc d src cap dest promo sfx epMark =
      (match pieceLetter? pc with | some c => [c] | Option.none => []) ++
        (midText d src cap dest ++ tailText promo sfx epMark) := by
  simp only [spellText, midText, tailText, List.append_assoc]

/-- the characters between the piece letter and the tail are file letters, rank digits and `x` -/
theorem midText_chars (d : Disamb) (src : Sq) (cap : Bool) (dest : Sq) :
    ∀ c ∈ midText d src cap dest, c.utf8Size = 1 ∧ pieceOfLetter? c = none ∧ c ≠ 'O' := by
  have hf : ∀ f, (fileChar f).utf8Size = 1 ∧ pieceOfLetter? (fileChar f) = none ∧ fileChar f ≠ 'O' := by
    decide
  have hr : ∀ r, (rankChar r).utf8Size = 1 ∧ pieceOfLetter? (rankChar r) = none ∧ rankChar r ≠ 'O' := by
    decide
  intro c hc
  simp only [midText, List.mem_append] at hc
  rcases hc with (hc | hc) | hc
  · cases d <;> simp only [disambText, fileCh_eq, rankCh_eq, List.mem_cons, List.not_mem_nil, or_false] at hc
    · subst hc; exact hf _
    · subst hc; exact hr _
    · rcases hc with rfl | rfl
      · exact hf _
      · exact hr _
  · cases cap <;>
      simp only [if_true, Bool.false_eq_true, if_false, List.mem_cons, List.not_mem_nil, or_false] at hc
    subst hc; decide
  · simp only [sqName_eq, showSquare, List.mem_cons, List.not_mem_nil, or_false] at hc
    rcases hc with rfl | rfl
    · exact hf _
    · exact hr _

theorem midText_cons (d : Disamb) (src : Sq) (cap : Bool) (dest : Sq) :
    ∃ c r, midText d src cap dest = c :: r := by
  cases h : midText d src cap dest with
  | nil => simp [midText, Fen.sqName] at h
  | cons c r => exact ⟨c, r, rfl⟩

theorem pieceLetter?_spec {pc : Piece} {c : Char} (h : pieceLetter? pc = some c) :
    c.utf8Size = 1 ∧ pieceOfLetter? c = some pc ∧ c ≠ 'O' := by
  cases pc <;> cases h <;> decide

theorem scan_spell_fields (pc : Piece) (d : Disamb) (src : Sq) (cap : Bool) (dest : Sq)
    (promo : Option Piece) (sfx : Suffix) (epMark : Bool)
    (hp : promo ∈ [none, some .queen, some .rook, some .bishop, some .knight]) :
    scan (spellText pc d src cap dest promo sfx epMark) =
      some ⟨pc, disambFile d src, disambRank d src, cap, dest, promo, epMark⟩ := by
  obtain ⟨hT, hS⟩ := tailText_spec promo sfx epMark hp
  have hb := bodyAt_midText d src cap dest _ hT
  rw [hS] at hb
  rw [spellText_eq]
  cases hl : pieceLetter? pc with
  | some c =>
    obtain ⟨h1, h2, _⟩ := pieceLetter?_spec hl
    rw [List.singleton_append, scan_cons c _ h1, h2, hb]
    rfl
  | none =>
    obtain ⟨c, r, hc⟩ := midText_cons d src cap dest
    obtain ⟨h1, h2, _⟩ := midText_chars d src cap dest c (hc ▸ List.mem_cons_self)
    rw [hc, List.cons_append] at hb
    rw [hc, List.nil_append, List.cons_append, scan_cons c _ h1, h2, hb]
    cases pc <;> first | rfl | cases hl


section
variable (p : Pos) (m : Move) (d : Disamb) (sfx : Suffix) (epMark : Bool) (pc : Piece) (col : Color)
  (hb : p.board m.src = some (pc, col))
include hb

theorem spell_eq_spellText :
    spell p m d sfx epMark = spellText pc d m.src (isCapture p m) m.dst m.promo sfx epMark := by
  unfold spell spellText
  rw [hb]
  rfl

theorem scan_spell
    (hp : m.promo ∈ [none, some .queen, some .rook, some .bishop, some .knight]) :
    scan (spell p m d sfx epMark) =
      some ⟨pc, disambFile d m.src, disambRank d m.src, isCapture p m, m.dst, m.promo, epMark⟩ := by
  rw [spell_eq_spellText p m d sfx epMark pc col hb]
  exact scan_spell_fields pc d m.src (isCapture p m) m.dst m.promo sfx epMark hp

end

/-! ### castling text -/

theorem castleText_short (sfx : Suffix) : castleText ("O-O".toList ++ suffixText sfx) = "O-O".toList := by
  cases sfx <;> decide
theorem castleText_long (sfx : Suffix) : castleText ("O-O-O".toList ++ suffixText sfx) = "O-O-O".toList := by
  cases sfx <;> decide

theorem head?_of_castleText {s : List Char}
    (h : castleText s = "O-O".toList ∨ castleText s = "O-O-O".toList) : s.head? = some 'O' := by
  have h' : (castleText s).head? = some 'O' := by rcases h with h | h <;> rw [h] <;> rfl
  unfold castleText at h'
  split at h'
  case h_3 => exact h'
  all_goals
    rw [List.head?_dropLast] at h'
    split at h'
    · exact h'
    · cases h'

/-- a non-castling spelling begins with a piece letter, a file letter, a rank digit or `x` -/
theorem castleText_spellText (pc : Piece) (d : Disamb) (src : Sq) (cap : Bool) (dest : Sq)
    (promo : Option Piece) (sfx : Suffix) (epMark : Bool) :
    ¬ (castleText (spellText pc d src cap dest promo sfx epMark) = "O-O".toList ∨
       castleText (spellText pc d src cap dest promo sfx epMark) = "O-O-O".toList) := by
  intro h
  have h := head?_of_castleText h
  rw [spellText_eq] at h
  cases hl : pieceLetter? pc with
  | some c =>
    rw [hl] at h
    exact (pieceLetter?_spec hl).2.2 (Option.some.inj h)
  | none =>
    obtain ⟨c, r, hc⟩ := midText_cons d src cap dest
    rw [hl, hc] at h
    exact (midText_chars d src cap dest c (hc ▸ List.mem_cons_self)).2.2 (Option.some.inj h)

theorem castleText_spell (p : Pos) (m : Move) (d : Disamb) (sfx : Suffix) (epMark : Bool)
    (pc : Piece) (col : Color) (hb : p.board m.src = some (pc, col)) :
    ¬ (castleText (spell p m d sfx epMark) = "O-O".toList ∨
       castleText (spell p m d sfx epMark) = "O-O-O".toList) := by
  rw [spell_eq_spellText p m d sfx epMark pc col hb]
  exact castleText_spellText _ _ _ _ _ _ _ _

/-! ### completeness relative to the generated move list -/

theorem getFile_eq_iff (s t : Sq) : s.getFile = t.getFile ↔ s.file = t.file := by
  unfold Sq.getFile Sq.file
  rw [Fin.ext_iff]
  exact Int.ofNat_inj.symm
theorem getRank_eq_iff (s t : Sq) : s.getRank = t.getRank ↔ s.rank = t.rank := by
  unfold Sq.getRank Sq.rank
  rw [Fin.ext_iff]
  exact Int.ofNat_inj.symm
theorem sq_ext_fr {s t : Sq} (hf : s.getFile = t.getFile) (hr : s.getRank = t.getRank) : s = t := by
  rw [← mkSq_getRank_getFile s, ← mkSq_getRank_getFile t, hf, hr]

/-- the fields the scanner extracts from a spelling of `m` -/
def fieldsOf (p : Pos) (pc : Piece) (m : Move) (d : Disamb) (epMark : Bool) : Fields :=
  ⟨pc, disambFile d m.src, disambRank d m.src, isCapture p m, m.dst, m.promo, epMark⟩

/-- the per-square queries of the board agree with its abstraction (holds under `Struct b`) -/
def Agree (b : Board) : Prop := ∀ s, b.pieceOn s = (b.abs.board s).map (·.1)

section
variable (b : Board) (ha : Agree b) (pc : Piece) (col : Color) (m : Move) (d : Disamb) (epMark : Bool)
  (hb : b.abs.board m.src = some (pc, col))
include ha hb

theorem baseMatch_fieldsOf :
    baseMatch b (fieldsOf b.abs pc m d epMark) m = true := by
  unfold baseMatch fieldsOf
  simp only [ha m.src, hb, Option.map_some, beq_self_eq_true, Bool.and_true, Bool.true_and, Bool.and_eq_true]
  cases d <;> simp [disambFile, disambRank]

theorem takesSkip_fieldsOf :
    takesSkip b (fieldsOf b.abs pc m d epMark) m = false := by
  unfold takesSkip fieldsOf isCapture isEnPassant Pos.empty
  simp only [ha m.dst, hb]
  cases hd : b.abs.board m.dst with
  | some x => simp
  | none =>
    cases pc <;> simp
    intro _ h1 h2
    exact h1 ((getFile_eq_iff _ _).1 h2)

theorem agrees_of_baseMatch (x : Move)
    (hx : baseMatch b (fieldsOf b.abs pc m d epMark) x = true) : agrees b.abs d m x = true := by
  unfold baseMatch fieldsOf at hx
  simp only [Bool.and_eq_true, beq_iff_eq] at hx
  obtain ⟨⟨⟨⟨h1, h2⟩, h3⟩, h4⟩, h5⟩ := hx
  rw [ha x.src] at h1
  unfold agrees
  simp only [h1, hb, Option.map_some, beq_self_eq_true, h4, h5, Bool.true_and]
  cases d
  · rfl
  · simp only [disambFile, beq_iff_eq] at h3
    simpa using (getFile_eq_iff _ _).1 h3
  · simp only [disambRank, beq_iff_eq] at h2
    simpa using (getRank_eq_iff _ _).1 h2
  · simp only [disambFile, disambRank, beq_iff_eq] at h2 h3
    simpa using sq_ext_fr h3 h2

end

theorem fromSan_spell (T : Tables) (b : Board) (m : Move) (d : Disamb) (sfx : Suffix) (epMark : Bool)
    (pc : Piece) (col : Color)
    (hnd : (b.legalMoves T).Nodup) (hm : m ∈ b.legalMoves T) (ha : Agree b)
    (hb : b.abs.board m.src = some (pc, col))
    (hp : m.promo ∈ [none, some .queen, some .rook, some .bishop, some .knight])
    (hu : ∀ m' ∈ b.legalMoves T, agrees b.abs d m m' = true → m' = m) :
    fromSan T b (spell b.abs m d sfx epMark) = .ok m := by
  rw [Props.fromSan_ok_iff T b _ m (castleText_spell b.abs m d sfx epMark pc col hb)]
  refine ⟨fieldsOf b.abs pc m d epMark, scan_spell b.abs m d sfx epMark pc col hb hp, ?_⟩
  exact Props.san_loop_complete b _ _ m hnd hm (baseMatch_fieldsOf b ha pc col m d epMark hb)
    (takesSkip_fieldsOf b ha pc col m d epMark hb)
    (fun x hx hbx => hu x hx (agrees_of_baseMatch b ha pc col m d epMark hb x hbx))

theorem agree_of_struct {b : Board} (h : Struct b) : Agree b := by
  intro s
  rw [abs_board]
  cases hc : b.content s with
  | none =>
    rw [(pieceOn_none_iff b s).2 ((h.content_none_iff s).1 hc)]; rfl
  | some x =>
    unfold Board.content at hc
    cases hp : b.pieceOn s with
    | none => rw [hp] at hc; cases hc
    | some p =>
      rw [hp] at hc
      cases hcol : b.colorOn s with
      | none => rw [hcol] at hc; cases hc
      | some c => rw [hcol] at hc; injection hc with hc; subst hc; rfl

/-! ### rejection -/

/-- the moves the loop can return: base matches that pass the capture filter -/
def hit (b : Board) (f : Fields) (m : Move) : Bool := baseMatch b f m && !takesSkip b f m

theorem loop_ok_count (b : Board) (f : Fields) (l : List Move) (m : Move)
    (h : loop b f l none = some (some m)) : l.countP (hit b f) = 1 := by
  obtain ⟨pre, h1, h2, h3⟩ := (Props.san_loop_iff b f l m).1 h
  have hf : l.filter (hit b f) = (l.filter (baseMatch b f)).filter (fun m => !takesSkip b f m) := by
    rw [List.filter_filter]
    congr 1
    funext m
    simp only [hit, Bool.and_comm]
  have hpre : pre.filter (fun m => !takesSkip b f m) = [] :=
    List.filter_eq_nil_iff.2 fun x hx => by simp [h2 x hx]
  rw [List.countP_eq_length_filter, hf, h1, List.filter_append, hpre]
  simp [h3]

theorem fromSan_err_of_not_ok (T : Tables) (b : Board) (s : List Char)
    (h : ∀ m, fromSan T b s ≠ .ok m) : fromSan T b s = .err := by
  cases hr : fromSan T b s with
  | ok m => exact absurd hr (h m)
  | err => rfl
  | panic => exact absurd hr (Props.fromSan_total T b s)

theorem fromSan_err_of_loop (T : Tables) (b : Board) (s : List Char) (f : Fields)
    (hc : ¬ (castleText s = "O-O".toList ∨ castleText s = "O-O-O".toList)) (hs : scan s = some f)
    (hl : ∀ m, loop b f (b.legalMoves T) none ≠ some (some m)) : fromSan T b s = .err := by
  refine fromSan_err_of_not_ok T b s fun m hm => ?_
  obtain ⟨f', hf', h⟩ := (Props.fromSan_ok_iff T b s m hc).1 hm
  cases hs.symm.trans hf'
  exact hl m h

/-! ### against FIDE legality (needs C01 for the board at hand) -/

theorem board_of_legal {p : Pos} {m : Move} (h : legal p m = true) :
    ∃ pc, p.board m.src = some (pc, p.stm) :=
  (pseudoLegal_src (Closure.legal_pseudo h)).imp fun _ => And.left

theorem promo_of_legal {p : Pos} {m : Move} (h : legal p m = true) :
    m.promo ∈ [none, some Piece.queen, some .rook, some .bishop, some .knight] := by
  rcases ((Plausible.plausible_iff p m).1 (Plausible.legal_plausible h)).2.2.2 with h0 | ⟨q, hq, hc⟩
  · rw [h0]; simp
  · rw [hq]; cases q <;> simp [promoPieces] at hc ⊢

theorem legal_mem_candidates {p : Pos} {m : Move} (h : legal p m = true) : m ∈ candidates p :=
  (List.mem_filter.1 ((Plausible.mem_legalMoves_iff p m).2 h)).1

theorem sq_of_home {s : Sq} {c : Color} {f : Fin 8} (hr : s.rank = c.homeRank) (hf : s.file = f.val) :
    s = mkSq c.backrank f :=
  sq_eq_mkSq hf (hr.trans (backrank_val c).symm)

theorem castle_shape {p : Pos} {m : Move} (hl : legal p m = true) (hc : isCastle p m = true) :
    m = ⟨mkSq p.stm.backrank 4, mkSq p.stm.backrank (if m.dst.file > m.src.file then 6 else 2), none⟩ := by
  obtain ⟨pc, hb⟩ := board_of_legal hl
  unfold legal pseudoLegal at hl
  unfold isCastle at hc
  rw [hb] at hl hc
  cases pc <;> simp only [Bool.false_and, Bool.false_eq_true] at hc
  simp only [Bool.and_eq_true, Bool.or_eq_true, beq_iff_eq, Option.isNone_iff_eq_none, Bool.true_and] at hl hc
  obtain ⟨⟨_, hpr, hmv⟩, _⟩ := hl
  rcases hmv with hmv | hmv
  · unfold attacks at hmv
    rw [hb] at hmv
    have := Plausible.king_step_coord hmv
    omega
  · obtain ⟨⟨⟨⟨h1, h2⟩, h3⟩, h4⟩, _⟩ := hmv
    obtain ⟨src, dst, promo⟩ := m
    simp only at h1 h2 h3 h4 hpr ⊢
    rw [hpr, ← sq_of_home h1 h2]
    congr 1
    split
    · exact sq_of_home (f := 6) (by omega) (by omega)
    · exact sq_of_home (f := 2) (by omega) (by omega)
/-- a sufficient condition for `unambiguous` that looks at the squares only: no other own man of the
kind of `m`'s stands on a square that agrees with `m.src` on the parts `d` spells out -/
theorem unambiguous_of_sources {p : Pos} {d : Disamb} {m : Move}
    (h : ∀ s, p.colorAt s = some p.stm → agrees p d m ⟨s, m.dst, m.promo⟩ = true → s = m.src) :
    unambiguous p d m = true := by
  unfold unambiguous
  rw [List.all_eq_true]
  intro m' hm'
  cases hag : agrees p d m m' with
  | false => rfl
  | true =>
    have hl := (Plausible.mem_legalMoves_iff p m').1 hm'
    have hcol := ((Plausible.plausible_iff p m').1 (Plausible.legal_plausible hl)).1
    obtain ⟨src, dst, promo⟩ := m'
    have hdp : dst = m.dst ∧ promo = m.promo := by
      unfold agrees at hag
      simp only [Bool.and_eq_true, beq_iff_eq] at hag
      exact ⟨hag.1.1.2, hag.1.2⟩
    obtain ⟨rfl, rfl⟩ := hdp
    cases h src hcol hag
    simp


theorem pieceOn_king_of_isCastle {b : Board} (ha : Agree b) {m : Move} (hc : isCastle b.abs m = true) :
    b.pieceOn m.src = some .king := by
  unfold isCastle at hc
  rw [ha m.src]
  cases hb : b.abs.board m.src with
  | none => rw [hb] at hc; cases hc
  | some x =>
    obtain ⟨pc, c'⟩ := x
    rw [hb] at hc
    cases pc <;> simp only [Bool.false_and, Bool.false_eq_true] at hc
    rfl

theorem isCastle_of_pieceOn_king {b : Board} (ha : Agree b) (r : Fin 8) (long : Bool)
    (hk : b.pieceOn (mkSq r 4) = some .king) :
    isCastle b.abs ⟨mkSq r 4, mkSq r (if long then 2 else 6), none⟩ = true := by
  unfold isCastle
  rw [ha] at hk
  cases hb : b.abs.board (mkSq r 4) with
  | none => rw [hb] at hk; cases hk
  | some x =>
    obtain ⟨pc, c'⟩ := x
    rw [hb] at hk
    simp only [Option.map_some, Option.some.injEq] at hk
    subst hk
    simp only [Bool.true_and, beq_iff_eq]
    clear hb
    revert r
    cases long <;> decide

theorem castle_file_short : ∀ r : Fin 8, (mkSq r 6).file > (mkSq r 4).file := by decide
theorem castle_file_long : ∀ r : Fin 8, ¬ (mkSq r 2).file > (mkSq r 4).file := by decide

/-- "the generated moves are the FIDE-legal moves, each once" (the conclusion of C01) for this board -/
def GenExact (T : Tables) (b : Board) : Prop :=
  (b.legalMoves T).Nodup ∧ ∀ m, m ∈ b.legalMoves T ↔ (legal b.abs m = true ∧ m ∈ candidates b.abs)

end San
end Chess
