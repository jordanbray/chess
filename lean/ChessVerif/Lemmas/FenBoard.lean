import ChessVerif.Lemmas.Fen
import ChessVerif.Lemmas.TryFrom
/-!
Board-level FEN round trip: for a board accepted by `Board::try_from`, converting it back to a
builder and validating again yields the same board, hence `Board::from_str(board.to_string())`
returns the board.  Uses `Lemmas/Fen.lean` (text round trip of the builder) and
`Lemmas/TryFrom.lean` (what `try_from` builds).
-/
namespace Chess

theorem buildFold_congr (T : Tables) (bd bd' : Builder) (hp : bd'.pieces = bd.pieces)
    (l : List Sq) (acc : Board) : buildFold T bd' l acc = buildFold T bd l acc := by
  unfold buildFold; rw [hp]

theorem tryFromFinish_congr (T : Tables) (bd bd' : Builder) (b0 : Board) (hs : bd'.stm = bd.stm)
    (hw : bd'.wcr = bd.wcr) (hb : bd'.bcr = bd.bcr) (he : bd'.getEnPassant = bd.getEnPassant) :
    tryFromFinish T bd' b0 = tryFromFinish T bd b0 := by
  unfold tryFromFinish; rw [hs, hw, hb, he]

/-- an en-passant file that `set_ep` does not record (no enemy pawn beside) has the same effect as
no en-passant file -/
theorem tryFromFinish_ep_fail (T : Tables) (bd bd' : Builder) (b0 : Board) (e : Sq)
    (hs : bd'.stm = bd.stm) (hw : bd'.wcr = bd.wcr) (hb : bd'.bcr = bd.bcr)
    (he' : bd'.getEnPassant = none) (he : bd.getEnPassant = some e)
    (hc : ¬ (T.adjFiles e.getFile &&& T.ranks e.getRank &&& b0.pawns &&& b0.colorCombined bd.stm ≠ 0#64)) :
    tryFromFinish T bd' b0 = tryFromFinish T bd b0 := by
  unfold tryFromFinish
  rw [hs, hw, hb, he', he]
  simp only
  have : Board.setEp T { b0 with stm := bd.stm.other } e = { b0 with stm := bd.stm.other } := by
    have hcc : ∀ c, Board.colorCombined { b0 with stm := bd.stm.other } c = b0.colorCombined c := by
      intro c; cases c <;> rfl
    unfold Board.setEp
    rw [if_neg]
    simp only [Color.other_other, hcc]
    exact hc
  rw [this]
  simp only [Color.other_other]

/-- on an accepted board the recorded en-passant square is the pawn's square of its builder view -/
theorem toBuilder_getEnPassant (T : Tables) (bd : Builder) (b : Board)
    (h : Board.tryFrom T bd = some b) : b.toBuilder.getEnPassant = b.ep :=
  Builder.getEnPassant_of_fourthRank rfl fun q hq => (tryFrom_ep_rank h q hq).1

theorem tryFrom_toBuilder (T : Tables) (bd : Builder) (b : Board) (h : Board.tryFrom T bd = some b) :
    Board.tryFrom T b.toBuilder = some b := by
  obtain ⟨_, hcont, hstm, hwcr, hbcr, hep, _, hsane⟩ := tryFrom_spec T bd b h
  have hb : tryFromPre T bd = b := by
    rw [tryFrom_eq] at h
    split at h
    · injection h
    · cases h
  have he := toBuilder_getEnPassant T bd b h
  have hpre : tryFromPre T b.toBuilder = tryFromPre T bd := by
    unfold tryFromPre
    rw [buildFold_congr T bd b.toBuilder hcont]
    cases hg : bd.getEnPassant with
    | none =>
      rw [hg] at hep
      exact tryFromFinish_congr T bd b.toBuilder _ hstm hwcr hbcr (by rw [he, hep, hg])
    | some e =>
      rw [hg] at hep
      simp only at hep
      split at hep
      · exact tryFromFinish_congr T bd b.toBuilder _ hstm hwcr hbcr (by rw [he, hep, hg])
      · rename_i hc
        refine tryFromFinish_ep_fail T bd b.toBuilder _ e hstm hwcr hbcr (by rw [he, hep]) hg ?_
        -- the test `set_ep` makes on the freshly filled board is the one `b` has failed
        have hs : SamePl b (buildFold T bd allSq Board.blank) :=
          hb ▸ (tryFromFinish_spec T bd _ (buildFold_fields T bd allSq Board.blank).2.1
            (buildFold_fields T bd allSq Board.blank).2.2.1
            (buildFold_fields T bd allSq Board.blank).2.2.2).1
        have hs := (samePl_iff _ _).mp hs
        have hcc : b.colorCombined bd.stm = (buildFold T bd allSq Board.blank).colorCombined bd.stm := by
          cases bd.stm
          · exact hs.2.2.2.2.2.2.1
          · exact hs.2.2.2.2.2.2.2.1
        rw [← hs.1, ← hcc, ← hstm]
        exact hc
  rw [tryFrom_eq, hpre, hb, if_pos hsane]

/-- `Board::from_str(board.to_string()) = Ok(board)` for every board accepted by `try_from` -/
theorem parseBoard_showBoard (T : Tables) (bd : Builder) (b : Board)
    (h : Board.tryFrom T bd = some b) : parseBoard T (showBoard b) = .ok b := by
  obtain ⟨bd', h1, h2, h3, h4, h5, h6⟩ := parseBuilder_showBuilder b.toBuilder
  have : bd' = b.toBuilder := Builder.ext_pointwise h2 h3 h4 h5 h6
  subst this
  unfold parseBoard showBoard
  rw [h1]
  simp only [tryFrom_toBuilder T bd b h]

end Chess
