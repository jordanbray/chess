import ChessVerif.Lemmas.GeomBridge3
/-
Geometry, part 4: `aligned` (direction form, symmetry, coordinate forms) and ray walking = "aligned
along one of the directions and nothing strictly between" — the shape of `slides` in the specification.
-/
namespace Chess
open PinCheck

/-! ### `aligned` -/

theorem aligned_iff (ds : List Dir) (a b : Sq) :
    aligned ds a b = true ↔ ∃ u ∈ ds, ∃ n, onRay a u n b = true := by
  unfold aligned
  simp only [List.any_eq_true, List.mem_range]
  constructor
  · rintro ⟨u, hu, n, _, h⟩; exact ⟨u, hu, n, h⟩
  · rintro ⟨u, hu, n, h⟩
    exact ⟨u, hu, n, by have := onRay_le7 h; omega, h⟩

theorem aligned_iff_At (ds : List Dir) (a b : Sq) :
    aligned ds a b = true ↔ ∃ u ∈ ds, ∃ i : Int, 0 < i ∧ At a u i b := by
  rw [aligned_iff]
  constructor
  · rintro ⟨u, hu, n, hn⟩
    rw [onRay_iff] at hn
    exact ⟨u, hu, n, by omega, hn.2⟩
  · rintro ⟨u, hu, i, hi, h⟩
    exact ⟨u, hu, i.toNat, onRay_of_At hi h⟩

theorem aligned_symm_of_closed (ds : List Dir) (hds : ∀ u ∈ ds, u.opp ∈ ds) (a b : Sq) :
    aligned ds a b = aligned ds b a := by
  rw [Bool.eq_iff_iff, aligned_iff_At, aligned_iff_At]
  constructor <;> rintro ⟨u, hu, i, hi, h⟩ <;> exact ⟨u.opp, hds u hu, i, hi, h.rev⟩

theorem aligned_rook_symm (a b : Sq) : aligned rookDirs a b = aligned rookDirs b a :=
  aligned_symm_of_closed rookDirs (fun _ => Dir.opp_mem_rookDirs) a b

theorem aligned_bishop_symm (a b : Sq) : aligned bishopDirs a b = aligned bishopDirs b a :=
  aligned_symm_of_closed bishopDirs (fun _ => Dir.opp_mem_bishopDirs) a b

theorem aligned_ne {ds : List Dir} {a b : Sq} (h : aligned ds a b = true) : a ≠ b := by
  obtain ⟨u, _, i, hi, h⟩ := (aligned_iff_At ds a b).mp h
  rintro rfl
  have := At.inj h (At.zero a u)
  omega

theorem aligned_irrefl (ds : List Dir) (a : Sq) : aligned ds a a = false := by
  cases h : aligned ds a a with
  | false => rfl
  | true => exact absurd rfl (aligned_ne h)

theorem aligned_allDirs (a b : Sq) :
    aligned allDirs a b = (aligned rookDirs a b || aligned bishopDirs a b) := by
  unfold aligned allDirs
  rw [List.any_append]

theorem aligned_allDirs_of {ds : List Dir} {a b : Sq} (h : aligned ds a b = true) : aligned allDirs a b = true := by
  obtain ⟨u, _, hn⟩ := (aligned_iff ds a b).mp h
  exact (aligned_iff allDirs a b).mpr ⟨u, mem_allDirs u, hn⟩

theorem Dir.mem_rookDirs_iff (u : Dir) : u ∈ rookDirs ↔ u.df = 0 ∨ u.dr = 0 := by cases u <;> decide
theorem Dir.mem_bishopDirs_iff (u : Dir) : u ∈ bishopDirs ↔ u.df.natAbs = u.dr.natAbs := by cases u <;> decide

/-- a rook direction keeps the file or the rank, a bishop direction changes both by the same amount -/
theorem PinCheck.At.mem_dirs {a b : Sq} {u : Dir} {i : Int} (hi : 0 < i) (h : At a u i b) :
    (u ∈ rookDirs ↔ a.file = b.file ∨ a.rank = b.rank) ∧
      (u ∈ bishopDirs ↔ (b.file - a.file).natAbs = (b.rank - a.rank).natAbs) := by
  obtain ⟨h1, h2⟩ := h
  have hi' : i ≠ 0 := Int.ne_of_gt hi
  have hf : b.file - a.file = i * u.df := by omega
  have hr : b.rank - a.rank = i * u.dr := by omega
  constructor
  · rw [Dir.mem_rookDirs_iff, show a.file = b.file ↔ i * u.df = 0 by omega,
      show a.rank = b.rank ↔ i * u.dr = 0 by omega, Int.mul_eq_zero, Int.mul_eq_zero, or_iff_right hi',
      or_iff_right hi']
  · rw [Dir.mem_bishopDirs_iff, hf, hr, Int.natAbs_mul, Int.natAbs_mul,
      Nat.mul_left_cancel_iff (Int.natAbs_pos.mpr hi')]

/-- distinct squares on a common rank, file or diagonal: one is on a ray from the other -/
theorem exists_At {a b : Sq} (hne : a ≠ b)
    (h : a.file = b.file ∨ a.rank = b.rank ∨ (b.file - a.file).natAbs = (b.rank - a.rank).natAbs) :
    ∃ (u : Dir) (i : Int), 0 < i ∧ At a u i b := by
  rw [ne_eq, Sq.eq_iff_coord] at hne
  obtain ⟨u, i, hi, hP, hQ⟩ := exists_dir (P := b.file - a.file) (Q := b.rank - a.rank)
    (by omega) (by omega)
  exact ⟨u, i, hi, by omega, by omega⟩

theorem aligned_rook_iff (a b : Sq) : aligned rookDirs a b = true ↔
    a ≠ b ∧ (a.file = b.file ∨ a.rank = b.rank) := by
  refine ⟨fun h => ⟨aligned_ne h, ?_⟩, fun ⟨hne, h⟩ => ?_⟩
  · obtain ⟨u, hu, i, hi, hb⟩ := (aligned_iff_At _ a b).mp h
    exact (hb.mem_dirs hi).1.mp hu
  · obtain ⟨u, i, hi, hb⟩ := exists_At hne (h.imp_right Or.inl)
    exact (aligned_iff_At _ a b).mpr ⟨u, (hb.mem_dirs hi).1.mpr h, i, hi, hb⟩

theorem aligned_bishop_iff (a b : Sq) : aligned bishopDirs a b = true ↔
    a ≠ b ∧ (b.file - a.file).natAbs = (b.rank - a.rank).natAbs := by
  refine ⟨fun h => ⟨aligned_ne h, ?_⟩, fun ⟨hne, h⟩ => ?_⟩
  · obtain ⟨u, hu, i, hi, hb⟩ := (aligned_iff_At _ a b).mp h
    exact (hb.mem_dirs hi).2.mp hu
  · obtain ⟨u, i, hi, hb⟩ := exists_At hne (Or.inr (Or.inr h))
    exact (aligned_iff_At _ a b).mpr ⟨u, (hb.mem_dirs hi).2.mpr h, i, hi, hb⟩

theorem aligned_all_iff (a b : Sq) : aligned allDirs a b = true ↔
    a ≠ b ∧ (a.file = b.file ∨ a.rank = b.rank ∨
      (b.file - a.file).natAbs = (b.rank - a.rank).natAbs) := by
  rw [aligned_allDirs, Bool.or_eq_true, aligned_rook_iff, aligned_bishop_iff, ← and_or_left, or_assoc]

theorem rookDirs_bishopDirs_disjoint {u : Dir} : u ∈ rookDirs → u ∈ bishopDirs → False := by
  cases u <;> decide

theorem aligned_rook_bishop_disjoint {s x : Sq} (h1 : aligned rookDirs s x = true)
    (h2 : aligned bishopDirs s x = true) : False := by
  obtain ⟨u, hu, i, hi, h⟩ := (aligned_iff_At _ s x).mp h1
  obtain ⟨u', hu', i', hi', h'⟩ := (aligned_iff_At _ s x).mp h2
  obtain ⟨rfl, _⟩ := At.dir_unique hi hi' h h'
  exact rookDirs_bishopDirs_disjoint hu hu'

/-! ### `strictlyBetween` and `aligned` -/

theorem strictlyBetween_aligned {a x b : Sq} (h : strictlyBetween a x b = true) :
    aligned allDirs a b = true := by
  obtain ⟨u, n, t, ht, htn, hb, _⟩ := At_of_sb h
  exact (aligned_iff_At allDirs a b).mpr ⟨u, mem_allDirs u, n, by omega, hb⟩

theorem strictlyBetween_basic {a x b : Sq} (h : strictlyBetween a x b = true) :
    x ≠ a ∧ x ≠ b ∧ aligned allDirs a b = true :=
  ⟨strictlyBetween_ne_left h, strictlyBetween_ne_right h, strictlyBetween_aligned h⟩

/-- a square strictly between two squares aligned along `ds` is aligned with both along `ds`
(same direction) -/
theorem strictlyBetween_aligned_ds {ds : List Dir} {a x b : Sq} (h : strictlyBetween a x b = true)
    (hab : aligned ds a b = true) : aligned ds a x = true ∧ aligned ds x b = true := by
  obtain ⟨u, hu, n, hn, hb⟩ := (aligned_iff_At ds a b).mp hab
  obtain ⟨t, ht, htn, hx⟩ := At_of_sb_dir hn hb h
  exact ⟨(aligned_iff_At ds a x).mpr ⟨u, hu, t, ht, hx⟩,
    (aligned_iff_At ds x b).mpr ⟨u, hu, n - t, by omega, hx.shift hb⟩⟩

/-! ### slider walks -/

/-- ray walking = aligned and nothing strictly between, for every list of directions -/
theorem mem_sliderWalk_iff (ds : List Dir) (s : Sq) (occ : BB) (x : Sq) :
    (Geom.sliderWalk ds s occ).getLsbD x.val = true ↔
      aligned ds s x = true ∧ ∀ z, strictlyBetween s z x = true → occ.has z = false := by
  rw [getLsbD_sliderWalk, List.any_eq_true, aligned_iff]
  constructor
  · rintro ⟨u, hu, h⟩
    obtain ⟨n, hn, hpre⟩ := (mem_walkL_ray s u occ x).mp h
    refine ⟨⟨u, hu, n, hn⟩, fun z hsb => ?_⟩
    obtain ⟨u', n', t', h1, h2, h3⟩ := (strictlyBetween_iff s z x).mp hsb
    obtain ⟨rfl, rfl⟩ := ray_dir_unique hn h1
    exact hpre t' z h3 h2
  · rintro ⟨⟨u, hu, n, hn⟩, hall⟩
    exact ⟨u, hu, (mem_walkL_ray s u occ x).mpr ⟨n, hn, fun t z ht hz =>
      hall z ((strictlyBetween_iff s z x).mpr ⟨u, n, t, hn, hz, ht⟩)⟩⟩

theorem mem_sliderWalk_gen (ds : List Dir) (s : Sq) (occ : BB) (x : Sq) :
    (Geom.sliderWalk ds s occ).getLsbD x.val =
      (aligned ds s x && allSq.all (fun z => !strictlyBetween s z x || !occ.has z)) := by
  rw [Bool.eq_iff_iff, mem_sliderWalk_iff]
  simp only [Bool.and_eq_true, allSq, List.all_eq_true, List.mem_finRange, true_imp_iff,
    Bool.or_eq_true, Bool.not_eq_true', ← Bool.not_eq_true, ← Decidable.imp_iff_not_or]

/-- the hypothesis on `ds` is not needed; see `mem_sliderWalk_gen` -/
theorem mem_sliderWalk (ds : List Dir) (_hds : ds = rookDirs ∨ ds = bishopDirs ∨ ds = allDirs)
    (s : Sq) (occ : BB) (x : Sq) :
    (Geom.sliderWalk ds s occ).getLsbD x.val =
      (aligned ds s x && allSq.all (fun z => !strictlyBetween s z x || !occ.has z)) :=
  mem_sliderWalk_gen ds s occ x

theorem mem_rookWalk (s : Sq) (occ : BB) (x : Sq) :
    (Geom.rookWalk s occ).getLsbD x.val =
      (aligned rookDirs s x && allSq.all (fun z => !strictlyBetween s z x || !occ.has z)) :=
  mem_sliderWalk_gen rookDirs s occ x

theorem mem_bishopWalk (s : Sq) (occ : BB) (x : Sq) :
    (Geom.bishopWalk s occ).getLsbD x.val =
      (aligned bishopDirs s x && allSq.all (fun z => !strictlyBetween s z x || !occ.has z)) :=
  mem_sliderWalk_gen bishopDirs s occ x

/-- with an occupancy bitboard that is the set of non-empty squares of `p`, ray walking is `slides` -/
theorem mem_sliderWalk_slides (ds : List Dir) (p : Pos) (occ : BB)
    (hocc : ∀ z, occ.has z = !p.empty z) (s x : Sq) :
    (Geom.sliderWalk ds s occ).getLsbD x.val = slides ds p s x := by
  rw [mem_sliderWalk_gen]
  unfold slides pathClear
  congr 2
  funext z
  rw [hocc, Bool.not_not]

theorem mem_sliderRays (ds : List Dir) (s x : Sq) :
    (Geom.sliderWalk ds s 0#64).getLsbD x.val = aligned ds s x := by
  rw [Bool.eq_iff_iff, mem_sliderWalk_iff]
  exact ⟨fun h => h.1, fun h => ⟨h, fun z _ => by simp [BB.has]⟩⟩

theorem mem_rookRays (s x : Sq) : (Geom.rookRays s).getLsbD x.val = aligned rookDirs s x :=
  mem_sliderRays rookDirs s x

theorem mem_bishopRays (s x : Sq) : (Geom.bishopRays s).getLsbD x.val = aligned bishopDirs s x :=
  mem_sliderRays bishopDirs s x

theorem sliderWalk_subset_rays {ds : List Dir} {s : Sq} {occ : BB} {x : Sq}
    (h : (Geom.sliderWalk ds s occ).getLsbD x.val = true) :
    (Geom.sliderWalk ds s 0#64).getLsbD x.val = true := by
  rw [mem_sliderRays]
  exact ((mem_sliderWalk_iff ds s occ x).mp h).1

theorem mem_sliderWalk_symm (ds : List Dir) (hds : ∀ u ∈ ds, u.opp ∈ ds) (s : Sq) (occ : BB) (x : Sq) :
    (Geom.sliderWalk ds s occ).getLsbD x.val = (Geom.sliderWalk ds x occ).getLsbD s.val := by
  rw [Bool.eq_iff_iff, mem_sliderWalk_iff, mem_sliderWalk_iff, aligned_symm_of_closed ds hds s x]
  simp only [strictlyBetween_symm s _ x]

theorem mem_rookWalk_symm (s : Sq) (occ : BB) (x : Sq) :
    (Geom.rookWalk s occ).getLsbD x.val = (Geom.rookWalk x occ).getLsbD s.val :=
  mem_sliderWalk_symm rookDirs (fun _ => Dir.opp_mem_rookDirs) s occ x

theorem mem_bishopWalk_symm (s : Sq) (occ : BB) (x : Sq) :
    (Geom.bishopWalk s occ).getLsbD x.val = (Geom.bishopWalk x occ).getLsbD s.val :=
  mem_sliderWalk_symm bishopDirs (fun _ => Dir.opp_mem_bishopDirs) s occ x

/-! ### the `between` mask -/

/-- the code's "nothing between" test -/
theorem between_and_eq_zero_iff (a b : Sq) (occ : BB) :
    Geom.between a b &&& occ = 0#64 ↔ ∀ z, strictlyBetween a z b = true → occ.has z = false := by
  rw [BB.eq_zero_iff]
  refine forall_congr' fun z => ?_
  rw [BitVec.getLsbD_and, mem_between]
  cases strictlyBetween a z b <;> simp [BB.has]

/-- ray walking = aligned and the `between` mask misses the occupancy -/
theorem mem_sliderWalk_between (ds : List Dir) (s : Sq) (occ : BB) (x : Sq) :
    (Geom.sliderWalk ds s occ).getLsbD x.val = true ↔
      aligned ds s x = true ∧ Geom.between s x &&& occ = 0#64 := by
  rw [mem_sliderWalk_iff, between_and_eq_zero_iff]

/-! ### the queen -/

theorem rookWalk_and_bishopWalk (s : Sq) (occ occ' : BB) :
    Geom.rookWalk s occ &&& Geom.bishopWalk s occ' = 0#64 := by
  rw [BB.eq_zero_iff]
  intro z
  rw [BitVec.getLsbD_and, mem_rookWalk, mem_bishopWalk]
  cases h1 : aligned rookDirs s z with
  | false => rfl
  | true =>
    cases h2 : aligned bishopDirs s z with
    | false => simp
    | true => exact (aligned_rook_bishop_disjoint h1 h2).elim

/-- the queen's move set: the code's xor of the two walks is their union -/
theorem rookWalk_xor_bishopWalk (s : Sq) (occ occ' : BB) :
    Geom.rookWalk s occ ^^^ Geom.bishopWalk s occ' = Geom.rookWalk s occ ||| Geom.bishopWalk s occ' := by
  apply BitVec.eq_of_getLsbD_eq
  intro i hi
  have h := (BB.eq_zero_iff _).mp (rookWalk_and_bishopWalk s occ occ') ⟨i, hi⟩
  rw [BitVec.getLsbD_and] at h
  rw [BitVec.getLsbD_xor, BitVec.getLsbD_or]
  revert h
  cases (Geom.rookWalk s occ).getLsbD i <;> cases (Geom.bishopWalk s occ').getLsbD i <;> decide

theorem sliderWalk_allDirs (s : Sq) (occ : BB) :
    Geom.sliderWalk allDirs s occ = Geom.rookWalk s occ ||| Geom.bishopWalk s occ := by
  apply BitVec.eq_of_getLsbD_eq
  intro i _
  unfold Geom.rookWalk Geom.bishopWalk
  rw [BitVec.getLsbD_or, getLsbD_sliderWalk, getLsbD_sliderWalk, getLsbD_sliderWalk]
  unfold allDirs
  rw [List.any_append]

/-- membership in the queen's move set as computed by the code (xor of the two walks) -/
theorem mem_queenWalk (s : Sq) (occ : BB) (x : Sq) :
    (Geom.rookWalk s occ ^^^ Geom.bishopWalk s occ).getLsbD x.val =
      (aligned allDirs s x && allSq.all (fun z => !strictlyBetween s z x || !occ.has z)) := by
  rw [rookWalk_xor_bishopWalk, ← sliderWalk_allDirs, mem_sliderWalk_gen]

end Chess
