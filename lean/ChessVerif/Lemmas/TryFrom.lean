import ChessVerif.Lemmas.Placement
import ChessVerif.Lemmas.Text
/-!
`Board::try_from(&BoardBuilder)` establishes `Core` and builds exactly the builder's placement;
`null_move` keeps placement and rights, flips the side, clears ep, and its cached fields are the
from-scratch ones.
-/
namespace Chess

/-! ### the placement fold of `try_from` -/

/-- the loop `for sq in ALL_SQUARES { if let Some((piece, color)) = fen[sq] { board.xor(..) } }` -/
def buildFold (T : Tables) (bd : Builder) (l : List Sq) (acc : Board) : Board :=
  l.foldl (fun b s => match bd.pieces s with
    | some (p, c) => b.xor T p (BB.ofSq s) c
    | none => b) acc

theorem buildFold_nil (T : Tables) (bd : Builder) (acc : Board) : buildFold T bd [] acc = acc := rfl
theorem buildFold_cons (T : Tables) (bd : Builder) (t : Sq) (ts : List Sq) (acc : Board) :
    buildFold T bd (t :: ts) acc = buildFold T bd ts (match bd.pieces t with
      | some (p, c) => acc.xor T p (BB.ofSq t) c
      | none => acc) := rfl

theorem buildFold_core (T : Tables) (bd : Builder) (l : List Sq) (acc : Board) (hnd : l.Nodup) (h : Core T acc)
    (hemp : ∀ s ∈ l, acc.content s = none) :
    Core T (buildFold T bd l acc) ∧
    ∀ s, (buildFold T bd l acc).content s = if s ∈ l then bd.pieces s else acc.content s := by
  induction l generalizing acc with
  | nil => exact ⟨h, fun s => (if_neg List.not_mem_nil).symm⟩
  | cons t ts ih =>
    rw [List.nodup_cons] at hnd
    have ht := hemp t List.mem_cons_self
    -- one round of the loop puts `bd.pieces t` on the empty square `t`
    obtain ⟨acc', e, h', c'⟩ : ∃ acc', buildFold T bd (t :: ts) acc = buildFold T bd ts acc' ∧ Core T acc' ∧
        ∀ s, acc'.content s = if s = t then bd.pieces t else acc.content s := by
      rw [buildFold_cons]
      cases bd.pieces t with
      | none => exact ⟨acc, rfl, h, fun s => by split <;> simp only [*]⟩
      | some pc => exact ⟨_, rfl, h.add pc.1 pc.2 ht⟩
    obtain ⟨h2, c2⟩ := ih acc' hnd.2 h' fun s hs => by
      rw [c', if_neg (fun e : s = t => hnd.1 (e ▸ hs))]; exact hemp s (List.mem_cons_of_mem _ hs)
    rw [e]
    refine ⟨h2, fun s => ?_⟩
    rw [c2, c']
    by_cases hst : s = t
    · simp only [hst, hnd.1, List.mem_cons_self, eq_self, if_true, if_false]
    · simp only [hst, List.mem_cons, false_or, if_false]

theorem buildFold_fields (T : Tables) (bd : Builder) : ∀ (l : List Sq) (acc : Board),
    (buildFold T bd l acc).stm = acc.stm ∧ (buildFold T bd l acc).wcr = acc.wcr ∧
    (buildFold T bd l acc).bcr = acc.bcr ∧ (buildFold T bd l acc).ep = acc.ep := by
  intro l
  induction l with
  | nil => exact fun acc => ⟨rfl, rfl, rfl, rfl⟩
  | cons t ts ih =>
    intro acc
    rw [buildFold_cons]
    cases bd.pieces t with
    | none => exact ih acc
    | some pc =>
      have := ih (acc.xor T pc.1 (BB.ofSq t) pc.2)
      rwa [xor_stm, xor_wcr, xor_bcr, xor_ep] at this

theorem buildFold_allSq (T : Tables) (bd : Builder) :
    Core T (buildFold T bd allSq Board.blank) ∧ (buildFold T bd allSq Board.blank).content = bd.pieces := by
  obtain ⟨h, c⟩ := buildFold_core T bd allSq Board.blank allSq_nodup (Core.blank T) (fun s _ => blank_content s)
  exact ⟨h, funext fun s => by rw [c, if_pos (mem_allSq s)]⟩

/-! ### `try_from` -/

/-- everything `try_from` does after the placement loop and before `is_sane` -/
def tryFromFinish (T : Tables) (bd : Builder) (b : Board) : Board :=
  let b := { b with stm := bd.stm }
  let b := match bd.getEnPassant with
    | some ep =>
      let b1 := { b with stm := b.stm.other }
      let b2 := b1.setEp T ep
      { b2 with stm := b2.stm.other }
    | none => b
  let b := b.setCastleRights .white ((b.castleRights .white).add bd.wcr)
  let b := b.setCastleRights .black ((b.castleRights .black).add bd.bcr)
  b.updatePinInfo T

/-- the board `try_from` hands to `is_sane` -/
def tryFromPre (T : Tables) (bd : Builder) : Board := tryFromFinish T bd (buildFold T bd allSq Board.blank)

theorem tryFrom_eq (T : Tables) (bd : Builder) :
    Board.tryFrom T bd = if (tryFromPre T bd).isSane T then some (tryFromPre T bd) else none := rfl

theorem setEp_stm (T : Tables) (b : Board) (s : Sq) : (b.setEp T s).stm = b.stm := by
  unfold Board.setEp; split <;> rfl
theorem setEp_wcr (T : Tables) (b : Board) (s : Sq) : (b.setEp T s).wcr = b.wcr := by
  unfold Board.setEp; split <;> rfl
theorem setEp_bcr (T : Tables) (b : Board) (s : Sq) : (b.setEp T s).bcr = b.bcr := by
  unfold Board.setEp; split <;> rfl
theorem setEp_ep (T : Tables) (b : Board) (s : Sq) : (b.setEp T s).ep =
    if T.adjFiles s.getFile &&& T.ranks s.getRank &&& b.pawns &&& b.colorCombined b.stm.other ≠ 0#64
    then some s else b.ep := by
  unfold Board.setEp; split <;> rfl

theorem updatePinInfo_idem (T : Tables) (b : Board) :
    Board.updatePinInfo T (Board.updatePinInfo T b) = Board.updatePinInfo T b := by
  unfold Board.updatePinInfo; rfl

/-- the tail of `try_from` in closed form: side and rights are set, the ep field is the one `set_ep` leaves when
called with the side flipped, and the cached fields are recomputed -/
theorem tryFromFinish_eq (T : Tables) (bd : Builder) (b : Board) :
    tryFromFinish T bd b = Board.updatePinInfo T { b with
      stm := bd.stm, wcr := b.wcr.add bd.wcr, bcr := b.bcr.add bd.bcr,
      ep := match bd.getEnPassant with
        | some e => (Board.setEp T { b with stm := bd.stm.other } e).ep
        | none => b.ep } := by
  unfold tryFromFinish
  cases bd.getEnPassant with
  | none => rfl
  | some e =>
    unfold Board.setEp
    dsimp only
    split <;> simp only [Color.other_other] <;> rfl

theorem tryFromFinish_spec (T : Tables) (bd : Builder) (b0 : Board) (hw : b0.wcr = .noRights)
    (hb : b0.bcr = .noRights) (he : b0.ep = none) :
    SamePl (tryFromFinish T bd b0) b0 ∧ (tryFromFinish T bd b0).stm = bd.stm ∧
    (tryFromFinish T bd b0).wcr = bd.wcr ∧ (tryFromFinish T bd b0).bcr = bd.bcr ∧
    (tryFromFinish T bd b0).ep = (match bd.getEnPassant with
      | some e =>
        if T.adjFiles e.getFile &&& T.ranks e.getRank &&& b0.pawns &&& b0.colorCombined bd.stm ≠ 0#64
        then some e else none
      | none => none) ∧
    Board.updatePinInfo T (tryFromFinish T bd b0) = tryFromFinish T bd b0 := by
  rw [tryFromFinish_eq]
  refine ⟨samePl_updatePinInfo T _, ?_, ?_, ?_, ?_, updatePinInfo_idem T _⟩
  · rw [updatePinInfo_with]
  · show b0.wcr.add bd.wcr = bd.wcr
    rw [hw]; rfl
  · show b0.bcr.add bd.bcr = bd.bcr
    rw [hb]; rfl
  · show (match bd.getEnPassant with
      | some e => (Board.setEp T { b0 with stm := bd.stm.other } e).ep
      | none => b0.ep) = _
    split
    · next e _ =>
      rw [setEp_ep]
      show (if T.adjFiles e.getFile &&& T.ranks e.getRank &&& b0.pawns &&& b0.colorCombined bd.stm.other.other ≠ 0#64
        then some e else b0.ep) = _
      rw [Color.other_other, he]
    · exact he

theorem tryFromPre_spec (T : Tables) (bd : Builder) :
    Core T (tryFromPre T bd) ∧ (tryFromPre T bd).content = bd.pieces ∧ (tryFromPre T bd).stm = bd.stm ∧
    (tryFromPre T bd).wcr = bd.wcr ∧ (tryFromPre T bd).bcr = bd.bcr ∧
    (tryFromPre T bd).ep = (match bd.getEnPassant with
      | some e =>
        if T.adjFiles e.getFile &&& T.ranks e.getRank &&& (tryFromPre T bd).pawns &&&
            (tryFromPre T bd).colorCombined (tryFromPre T bd).stm ≠ 0#64 then some e else none
      | none => none) ∧
    Board.updatePinInfo T (tryFromPre T bd) = tryFromPre T bd := by
  obtain ⟨hc, hcont⟩ := buildFold_allSq T bd
  obtain ⟨_, f2, f3, f4⟩ := buildFold_fields T bd allSq Board.blank
  obtain ⟨hs, h1, h2, h3, h4, h5⟩ := tryFromFinish_spec T bd (buildFold T bd allSq Board.blank) f2 f3 f4
  unfold tryFromPre
  refine ⟨(hs.core_iff T).mpr hc, hs.content_eq.trans hcont, h1, h2, h3, ?_, h5⟩
  rw [show (tryFromFinish T bd _).pawns = _ from hs.pieces_eq .pawn, hs.colorCombined_eq, h1]
  exact h4

theorem tryFrom_spec (T : Tables) (bd : Builder) (b : Board) (h : Board.tryFrom T bd = some b) :
    Core T b ∧ b.content = bd.pieces ∧ b.stm = bd.stm ∧ b.wcr = bd.wcr ∧ b.bcr = bd.bcr ∧
    b.ep = (match bd.getEnPassant with
      | some e =>
        if T.adjFiles e.getFile &&& T.ranks e.getRank &&& b.pawns &&& b.colorCombined b.stm ≠ 0#64
        then some e else none
      | none => none) ∧
    Board.updatePinInfo T b = b ∧ b.isSane T = true := by
  rw [tryFrom_eq] at h
  split at h
  · next hs =>
    injection h with h
    subst h
    obtain ⟨h1, h2, h3, h4, h5, h6, h7⟩ := tryFromPre_spec T bd
    exact ⟨h1, h2, h3, h4, h5, h6, h7, hs⟩
  · cases h

/-- `try_from` only ever proposes the square on the fourth rank of the side that just moved -/
theorem tryFrom_ep_rank {T : Tables} {bd : Builder} {b : Board} (h : Board.tryFrom T bd = some b) (q : Sq)
    (hq : b.ep = some q) : q.getRank = b.stm.other.fourthRank ∧ bd.epFile = some q.getFile := by
  obtain ⟨_, _, hstm, _, _, hep, _⟩ := tryFrom_spec T bd b h
  rw [hep] at hq
  unfold Builder.getEnPassant at hq
  cases hf : bd.epFile with
  | none => rw [hf] at hq; cases hq
  | some f =>
    simp only [hf, Option.map_some] at hq
    split at hq
    · cases hq
      rw [getRank_mkSq, getFile_mkSq, hstm]
      exact ⟨rfl, rfl⟩
    · cases hq

/-! ### `null_move` -/

theorem nullMove_none_iff (T : Tables) (b : Board) : b.nullMove T = none ↔ b.checkers ≠ 0#64 := by
  unfold Board.nullMove
  split <;> simp [*]

theorem nullMove_some (T : Tables) (b b' : Board) (h : b.nullMove T = some b') :
    b.checkers = 0#64 ∧ b' = Board.updatePinInfo T { b with stm := b.stm.other, ep := none } := by
  unfold Board.nullMove at h
  split at h
  · cases h
  · next hc => exact ⟨Classical.not_not.mp hc, (Option.some.inj h).symm⟩

theorem nullMove_spec (T : Tables) (b b' : Board) (h : b.nullMove T = some b') :
    SamePl b' b ∧ b'.wcr = b.wcr ∧ b'.bcr = b.bcr ∧ b'.stm = b.stm.other ∧ b'.ep = none ∧
    Board.updatePinInfo T b' = b' := by
  obtain ⟨_, e⟩ := nullMove_some T b b' h
  subst e
  refine ⟨samePl_updatePinInfo T _, ?_, ?_, ?_, ?_, updatePinInfo_idem T _⟩ <;> rw [updatePinInfo_with]

end Chess
