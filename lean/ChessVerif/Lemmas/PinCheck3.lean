import ChessVerif.Lemmas.PinCheck2
import ChessVerif.Lemmas.GeomBridge6
/-
Pins and checks on the specification, part 3: the geometry of the pin line, by positions on a line
(`At`, `GeomBridge2`).
-/
namespace Chess
namespace PinCheck

/-- if `d` is strictly between `x` and `k` and also strictly between `y` and `k`, then `x` and `y` are
on the same ray from `k`: they coincide or one is between the other and `k` -/
theorem same_ray {x y d k : Sq} (hx : strictlyBetween x d k = true) (hy : strictlyBetween y d k = true) :
    x = y ∨ strictlyBetween y x k = true ∨ strictlyBetween x y k = true := by
  obtain ⟨u, n, t, t0, tn, hX, hD⟩ := At_of_sb (strictlyBetween_symm' hx)
  obtain ⟨u', n', t', t0', tn', hY, hD'⟩ := At_of_sb (strictlyBetween_symm' hy)
  obtain ⟨rfl, rfl⟩ := At.dir_unique t0 t0' hD hD'
  have hK := At.zero k u
  rcases Int.lt_trichotomy n n' with hlt | rfl | hgt
  · exact Or.inr (Or.inl (sb_of_At_gt hY hX hK hlt (by omega)))
  · exact Or.inl (At.ext hX hY)
  · exact Or.inr (Or.inr (sb_of_At_gt hX hY hK hgt (by omega)))

/-! ### the pin line -/

/-- `x` is on the full line through the distinct, aligned squares `a` and `b` (`Geom.line`) -/
def onLine (a b x : Sq) : Bool := (Geom.line a b).getLsbD x.val

/-- **staying on the pin line**: with `s` strictly between the pinner `x` and the king `k`, a
destination that captures the pinner or stays strictly between pinner and king is on `line s k` -/
theorem pin_line_fwd {x s k d : Sq} (hs : strictlyBetween x s k = true)
    (hd : d = x ∨ strictlyBetween x d k = true) : onLine s k d = true := by
  obtain ⟨u, n, t, t0, tn, hK, hS⟩ := At_of_sb hs
  have hK' := hS.shift hK
  rcases hd with rfl | hd
  · exact mem_line_of_At (by omega) hK' (hS.shift (At.zero d u))
  · obtain ⟨j, _, _, hD⟩ := At_of_sb_dir (by omega) hK hd
    exact mem_line_of_At (by omega) hK' (hS.shift hD)

/-- **leaving the pin segment along the line**: `s` strictly between `x` and `k`; a destination on
`line s k` other than `s`, `k`, `x` and not strictly between `x` and `k` lies beyond `x` or beyond
`k`, so the move from `s` jumps over `x` or over `k` -/
theorem pin_line_bwd {x s k d : Sq} (hs : strictlyBetween x s k = true) (hl : onLine s k d = true)
    (h1 : d ≠ s) (h2 : d ≠ k) (h3 : d ≠ x) (h4 : strictlyBetween x d k = false) :
    strictlyBetween s x d = true ∨ strictlyBetween s k d = true := by
  obtain ⟨u, n, t, t0, tn, hK, hS⟩ := At_of_sb hs
  have hK' := hS.shift hK
  obtain ⟨i, hD⟩ := At_of_mem_line (by omega) hK' hl
  have hX := hS.shift (At.zero x u)
  have hS0 := At.zero s u
  -- positions from `s`: x at -t, s at 0, k at n - t, d at i
  have c1 : i ≠ 0 := fun h => h1 (At.ext (h ▸ hD) hS0)
  have c2 : i ≠ n - t := fun h => h2 (At.ext (h ▸ hD) hK')
  have c3 : i ≠ 0 - t := fun h => h3 (At.ext (h ▸ hD) hX)
  have c4 : ¬ (0 - t < i ∧ i < n - t) := fun ⟨a, b⟩ =>
    Bool.false_ne_true (h4.symm.trans (sb_of_At_lt hX hD hK' a b))
  by_cases hneg : i < 0 - t
  · exact Or.inl (sb_of_At_gt hS0 hX hD (by omega) hneg)
  · exact Or.inr (sb_of_At_lt hS0 hK' hD (by omega) (by omega))

theorem pinned_slide {p : Pos} {x s k d : Sq} (hs : strictlyBetween x s k = true)
    (hx : p.empty x = false) (hk : p.empty k = false)
    (hpath : ∀ z, strictlyBetween s z d = true → p.empty z = true) (h1 : d ≠ s) (h2 : d ≠ k) :
    (d = x ∨ strictlyBetween x d k = true) ↔ onLine s k d = true := by
  refine ⟨pin_line_fwd hs, fun hl => ?_⟩
  by_cases h3 : d = x
  · exact Or.inl h3
  · cases h4 : strictlyBetween x d k with
    | true => exact Or.inr rfl
    | false =>
      exfalso
      rcases pin_line_bwd hs hl h1 h2 h3 h4 with e | e
      · rw [hpath x e] at hx; exact Bool.noConfusion hx
      · rw [hpath k e] at hk; exact Bool.noConfusion hk

end PinCheck
end Chess
