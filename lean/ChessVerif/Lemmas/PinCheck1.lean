import ChessVerif.Lemmas.GeomBridge5
/-
Pins and checks on the specification, part 1: the king square, the decomposition of `attacks` into a
slider part and a leaper part, and `checkerSq` / `pinnedSq` as propositions.
-/
namespace Chess
namespace PinCheck


/-! ### the king square -/

def KingAt (p : Pos) (c : Color) (k : Sq) : Prop := ∀ s, p.board s = some (.king, c) ↔ s = k

theorem board_of_kingSq? {p : Pos} {c : Color} {k : Sq} (h : kingSq? p c = some k) :
    p.board k = some (.king, c) := by
  simpa only [Pos.has, beq_iff_eq] using List.find?_some h

theorem kingSq?_of_KingAt {p : Pos} {c : Color} {k : Sq} (h : KingAt p c k) : kingSq? p c = some k := by
  cases hf : kingSq? p c with
  | none =>
    have := List.find?_eq_none.mp hf k (mem_allSq k)
    simp [Pos.has, (h k).mpr rfl] at this
  | some k' => rw [(h k').mp (board_of_kingSq? hf)]

theorem KingAt_of_count {p : Pos} {c : Color} {k : Sq} (hk : kingSq? p c = some k)
    (h1 : count p (· == (.king, c)) = 1) : KingAt p c k := by
  have hbk := board_of_kingSq? hk
  obtain ⟨x, hx⟩ := List.length_eq_one_iff.mp h1
  have mem : ∀ s, p.board s = some (.king, c) → s = x := fun s hs =>
    List.mem_singleton.mp (hx ▸ List.mem_filter.mpr ⟨mem_allSq s, by rw [hs]; simp⟩)
  exact fun s => ⟨fun hs => (mem s hs).trans (mem k hbk).symm, fun hs => hs ▸ hbk⟩

theorem count_of_KingAt {p : Pos} {c : Color} {k : Sq} (h : KingAt p c k) :
    kingSq? p c = some k ∧ count p (· == (.king, c)) = 1 := by
  refine ⟨kingSq?_of_KingAt h, ?_⟩
  have : (allSq.filter fun s => (p.board s).any (· == (.king, c))) = allSq.filter (· == k) := by
    refine List.filter_congr fun s _ => ?_
    rw [Bool.eq_iff_iff, beq_iff_eq, ← h s]
    rcases p.board s with _ | ⟨pc, c'⟩ <;> simp
  unfold count
  rw [this, ← List.count_eq_length_filter]
  exact ((List.nodup_finRange 64).count (a := k)).trans (if_pos (mem_allSq k))

/-! ### `attacks` = slider part ∨ leaper part -/

/-- the man `b` on `x` is a bishop, rook or queen and `k` lies on one of its lines (the test used in
`pinnedSq`) -/
def sliderAligned (b : Option (Piece × Color)) (x k : Sq) : Bool :=
  match b with
  | some (.bishop, _) => aligned bishopDirs x k
  | some (.rook, _) => aligned rookDirs x k
  | some (.queen, _) => aligned allDirs x k
  | _ => false

/-- the man `b` on `x` is a knight, king or pawn attacking `k` -/
def leaperAtt (b : Option (Piece × Color)) (x k : Sq) : Bool :=
  match b with
  | some (.knight, _) =>
      ((k.file - x.file).natAbs == 1 && (k.rank - x.rank).natAbs == 2) ||
      ((k.file - x.file).natAbs == 2 && (k.rank - x.rank).natAbs == 1)
  | some (.king, _) => allDirs.any fun u => onRay x u 1 k
  | some (.pawn, c) => k.rank - x.rank == c.fwd && (k.file - x.file).natAbs == 1
  | _ => false

theorem attacks_eq (p : Pos) (x k : Sq) :
    attacks p x k = ((sliderAligned (p.board x) x k && pathClear p x k) || leaperAtt (p.board x) x k) := by
  unfold attacks sliderAligned leaperAtt slides
  rcases p.board x with _ | ⟨pc, c⟩
  · simp
  · cases pc <;> simp

theorem slider_leaper_excl {b : Option (Piece × Color)} {x k : Sq} (h1 : sliderAligned b x k = true)
    (h2 : leaperAtt b x k = true) : False := by
  unfold sliderAligned at h1
  unfold leaperAtt at h2
  rcases b with _ | ⟨pc, c⟩
  · simp at h1
  · cases pc <;> simp at h1 h2

theorem sliderAligned_all {b : Option (Piece × Color)} {x k : Sq} (h : sliderAligned b x k = true) :
    aligned allDirs x k = true := by
  unfold sliderAligned at h
  rcases b with _ | ⟨pc, c⟩
  · simp at h
  · cases pc <;> simp at h
    · exact aligned_allDirs_of h
    · exact aligned_allDirs_of h
    · exact h

theorem pathClear_iff (p : Pos) (a b : Sq) :
    pathClear p a b = true ↔ ∀ z, strictlyBetween a z b = true → p.empty z = true := by
  unfold pathClear
  simp only [allSq_all, Bool.or_eq_true, Bool.not_eq_true', ← Bool.not_eq_true, ← Decidable.imp_iff_not_or]

/-- the pin test of `pinnedSq` is `sliderAligned` -/
theorem pinMatch_eq (b : Option (Piece × Color)) (x k : Sq) :
    (match b with
     | some (.bishop, _) => aligned bishopDirs x k
     | some (.rook, _) => aligned rookDirs x k
     | some (.queen, _) => aligned allDirs x k
     | _ => false) = sliderAligned b x k := rfl

/-! ### checkers and pinned men, as propositions -/

theorem checkerSq_iff {p : Pos} {k : Sq} (hk : kingSq? p p.stm = some k) (x : Sq) :
    checkerSq p x = true ↔
      p.colorAt x = some p.stm.other ∧
      ((sliderAligned (p.board x) x k = true ∧ ∀ z, strictlyBetween x z k = true → p.empty z = true) ∨
        leaperAtt (p.board x) x k = true) := by
  unfold checkerSq
  rw [hk]
  simp only [Bool.and_eq_true, beq_iff_eq, attacks_eq, Bool.or_eq_true, pathClear_iff]

theorem pinnedSq_iff {p : Pos} {k : Sq} (hk : kingSq? p p.stm = some k) (y : Sq) :
    pinnedSq p y = true ↔
      p.colorAt y = some p.stm ∧ y ≠ k ∧
      ∃ x, p.colorAt x = some p.stm.other ∧ strictlyBetween x y k = true ∧
        (∀ z, strictlyBetween x z k = true → z = y ∨ p.empty z = true) ∧
        sliderAligned (p.board x) x k = true := by
  unfold pinnedSq
  rw [hk]
  simp only [Bool.and_eq_true, beq_iff_eq, bne_iff_ne, ne_eq, allSq_any, allSq_all,
    Bool.or_eq_true, Bool.not_eq_true', and_assoc, or_assoc]
  simp only [← Bool.not_eq_true, ← Decidable.imp_iff_not_or]
  exact Iff.rfl

end PinCheck
end Chess
