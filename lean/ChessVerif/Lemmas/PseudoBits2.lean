import ChessVerif.Lemmas.PseudoBits1
/-
Pseudo-legal destination sets, part 2: pawns (single step, double step, capture; en passant is
generated separately by the code and excluded here), the promotion condition and the code's
promotion flag.
-/
namespace Chess
namespace PseudoBits

theorem colorAt_of_empty {p : Pos} {d : Sq} (h : p.empty d = true) : p.colorAt d = none := by
  unfold Pos.empty at h; unfold Pos.colorAt
  cases hb : p.board d with
  | none => rfl
  | some x => rw [hb] at h; cases h

/-! ### the code's pawn destinations -/

/-- bit `d` of the code's pawn destination set (attacks on occupied squares xor pushes, masked by
"not an own man") iff `src → d` is a single step, a double step or a capture of the specification.
Holds for every source square (a pawn of `c` on its own last rank has no destination on either side);
the content of `src` is irrelevant. -/
theorem pawn_bits {T : Tables} (hT : TablesOK T) {b : Board} (hs : Struct b) (src : Sq) (c : Color) (d : Sq) :
    (MoveGen.pseudoLegals T .pawn src c b.combined (~~~(b.colorCombined c))).getLsbD d.val = true ↔
      pawnStd b.abs src d c = true := by
  unfold MoveGen.pseudoLegals
  simp only
  unfold Board.pawnMoves Board.pawnAttacks
  rw [pawnQuiets_exact hT, hT.pawnAttacks, BitVec.getLsbD_and, Bool.and_eq_true, mask_iff hs,
    BitVec.getLsbD_xor, BitVec.getLsbD_and, pawnStd_iff]
  have hA : ((Geom.pawnAttacks c src).getLsbD d.val && b.combined.getLsbD d.val) = true ↔
      (d.rank = src.rank + c.fwd ∧ (d.file = src.file + 1 ∨ d.file = src.file - 1)) ∧
        b.abs.empty d = false := by
    rw [Bool.and_eq_true, mem_pawnAttacks_iff, empty_false_iff_combined hs]
  have hQ := mem_pawnQuiets_coord c src b.combined d
  simp only [occ_bridge hs, Bool.not_eq_false'] at hQ
  have hne : b.abs.empty d = true → b.abs.colorAt d ≠ some c := fun he => by
    rw [colorAt_of_empty he]; nofun
  by_cases hf : d.file = src.file
  · -- same file: only pushes
    have hA0 : ((Geom.pawnAttacks c src).getLsbD d.val && b.combined.getLsbD d.val) = false := by
      rw [Bool.eq_false_iff]; intro h; have := (hA.mp h).1.2; omega
    rw [hA0, Bool.false_xor, hQ]
    constructor
    · rintro ⟨⟨_, he, h | ⟨h1, h2, h3⟩⟩, _⟩
      · exact Or.inl ⟨hf, h, he⟩
      · exact Or.inr (Or.inl ⟨hf, h1, h2, he, h3⟩)
    · rintro (⟨_, h, he⟩ | ⟨_, h1, h2, he, h3⟩ | ⟨h, _, _⟩)
      · exact ⟨⟨hf, he, Or.inl h⟩, hne he⟩
      · exact ⟨⟨hf, he, Or.inr ⟨h1, h2, h3⟩⟩, hne he⟩
      · omega
  · -- another file: only captures
    have hQ0 : (Geom.pawnQuiets c src b.combined).getLsbD d.val = false := by
      rw [Bool.eq_false_iff]; intro h; exact hf (hQ.mp h).1
    rw [hQ0, Bool.xor_false, hA, colorAt_other_iff]
    constructor
    · rintro ⟨⟨⟨h1, h2⟩, h3⟩, h4⟩
      exact Or.inr (Or.inr ⟨h2, h1, h3, h4⟩)
    · rintro (⟨h, _, _⟩ | ⟨h, _⟩ | ⟨h2, h1, h3, h4⟩)
      · exact absurd h hf
      · exact absurd h hf
      · exact ⟨⟨⟨h1, h2⟩, h3⟩, h4⟩

/-! ### the specification's pawn clause: standard moves and the en-passant capture -/

theorem pseudoLegal_pawn_eq {p : Pos} {src : Sq} (hsrc : p.board src = some (.pawn, p.stm)) (d : Sq)
    (q : Option Piece) :
    pseudoLegal p ⟨src, d, q⟩ =
      (p.colorAt d != some p.stm && (promoShape p.stm d q && (pawnStd p src d p.stm || epClause p src d p.stm))) := by
  rw [Closure.pseudoLegal_eq]
  simp only [hsrc, beq_self_eq_true, Bool.true_and]
  rfl

theorem isEnPassant_pawn {p : Pos} {src : Sq} {c : Color} (hsrc : p.board src = some (.pawn, c)) (d : Sq)
    (q : Option Piece) : isEnPassant p ⟨src, d, q⟩ = (src.file != d.file && p.empty d) := by
  unfold isEnPassant
  simp only [hsrc, Bool.true_and]

/-- a standard pawn move does not land on an own man and is not an en-passant capture: a push stays on
its file, a capture lands on an enemy man -/
theorem pawnStd_facts {p : Pos} {src d : Sq} {c : Color} (h : pawnStd p src d c = true) :
    (p.colorAt d != some c) = true ∧ (src.file != d.file && p.empty d) = false := by
  rcases (pawnStd_iff p src d c).mp h with ⟨hf, _, he⟩ | ⟨hf, _, _, he, _⟩ | ⟨_, _, hc⟩
  · rw [colorAt_of_empty he, hf, bne_self_eq_false]; exact ⟨rfl, rfl⟩
  · rw [colorAt_of_empty he, hf, bne_self_eq_false]; exact ⟨rfl, rfl⟩
  · rw [hc, not_empty_of_colorAt hc, Bool.and_false]
    exact ⟨by cases c <;> rfl, rfl⟩

theorem epClause_facts {p : Pos} {src d : Sq} {c : Color} (h : epClause p src d c = true) :
    (p.colorAt d != some c) = true ∧ (src.file != d.file && p.empty d) = true := by
  unfold epClause at h
  simp only [Bool.and_eq_true, beq_iff_eq] at h
  have : src.file ≠ d.file := by omega
  rw [colorAt_of_empty h.1.2, h.1.2, Bool.and_true]
  exact ⟨rfl, bne_iff_ne.mpr this⟩

/-- a pawn of the side to move: the move `src → d` with promotion value `q` is pseudo-legal and not an
en-passant capture iff it is a single step, double step or capture and `q` satisfies the promotion
condition -/
theorem pseudoLegal_pawn {p : Pos} {src : Sq} (hsrc : p.board src = some (.pawn, p.stm)) (d : Sq)
    (q : Option Piece) :
    (pseudoLegal p ⟨src, d, q⟩ = true ∧ isEnPassant p ⟨src, d, q⟩ = false) ↔
      (pawnStd p src d p.stm = true ∧ promoShape p.stm d q = true) := by
  rw [pseudoLegal_pawn_eq hsrc, isEnPassant_pawn hsrc]
  simp only [Bool.and_eq_true, Bool.or_eq_true]
  constructor
  · rintro ⟨⟨_, hP, hS | hD⟩, hE⟩
    · exact ⟨hS, hP⟩
    · rw [(epClause_facts hD).2] at hE; cases hE
  · rintro ⟨hS, hP⟩
    exact ⟨⟨(pawnStd_facts hS).1, hP, Or.inl hS⟩, (pawnStd_facts hS).2⟩

/-- a pawn of the side to move: pseudo-legal en-passant captures are exactly the fourth disjunct
(with the promotion condition) -/
theorem pseudoLegal_pawn_ep {p : Pos} {src : Sq} (hsrc : p.board src = some (.pawn, p.stm)) (d : Sq)
    (q : Option Piece) :
    (pseudoLegal p ⟨src, d, q⟩ = true ∧ isEnPassant p ⟨src, d, q⟩ = true) ↔
      (epClause p src d p.stm = true ∧ promoShape p.stm d q = true) := by
  rw [pseudoLegal_pawn_eq hsrc, isEnPassant_pawn hsrc]
  simp only [Bool.and_eq_true, Bool.or_eq_true]
  constructor
  · rintro ⟨⟨_, hP, hS | hD⟩, hE⟩
    · have := (pawnStd_facts hS).2
      rw [hE.1, hE.2] at this; cases this
    · exact ⟨hD, hP⟩
  · rintro ⟨hD, hP⟩
    exact ⟨⟨(epClause_facts hD).1, hP, Or.inr hD⟩, Bool.and_eq_true_iff.mp (epClause_facts hD).2⟩

/-! ### the promotion flag of the code's pawn entries -/

theorem pawn_dest_rank {p : Pos} {src d : Sq} {c : Color} (h : pawnStd p src d c = true) :
    src.rank ≠ c.lastRank ∧ (d.rank = src.rank + c.fwd ∨ (d.rank = src.rank + 2 * c.fwd ∧ src.rank = c.pawnRank)) := by
  have hd := Sq.coord_bounds d
  have hc := c.ranks
  rcases (pawnStd_iff p src d c).mp h with ⟨_, h, _⟩ | ⟨_, h1, h2, _⟩ | ⟨_, h, _⟩
  · exact ⟨by omega, Or.inl h⟩
  · exact ⟨by omega, Or.inr ⟨h1, h2⟩⟩
  · exact ⟨by omega, Or.inl h⟩

/-- a pawn standing on its own last rank (possible under `is_sane`, excluded by `Valid`) has no
standard move in the specification … -/
theorem pawnStd_lastRank {p : Pos} {src d : Sq} {c : Color} (hl : src.rank = c.lastRank) :
    pawnStd p src d c = false :=
  Bool.eq_false_iff.mpr fun h => (pawn_dest_rank h).1 hl

/-- … and no destination in the code -/
theorem pawn_lastRank_no_bits {T : Tables} (hT : TablesOK T) {b : Board} (hs : Struct b) {src : Sq} {c : Color}
    (hl : src.rank = c.lastRank) (d : Sq) :
    (MoveGen.pseudoLegals T .pawn src c b.combined (~~~(b.colorCombined c))).getLsbD d.val = false := by
  rw [Bool.eq_false_iff, ne_eq, pawn_bits hT hs, pawnStd_lastRank hl]
  exact Bool.false_ne_true

theorem getRank_seventh_iff (src : Sq) (c : Color) :
    src.getRank = c.seventhRank ↔ src.rank + c.fwd = c.lastRank := by
  have h := Sq.getRank_val src
  rw [Fin.ext_iff]
  cases c
  · show src.getRank.val = 6 ↔ src.rank + 1 = 7
    omega
  · show src.getRank.val = 1 ↔ src.rank + -1 = 0
    omega

/-- the code's promotion flag of a pawn entry (`src.get_rank() == color.to_seventh_rank()`) is, for
every destination of that pawn, "the destination is on the last rank".  No hypothesis on `src`: a pawn
on its own last rank has no destination at all (see `pawn_lastRank_no_bits`). -/
theorem pawn_promo_flag {p : Pos} {src d : Sq} {c : Color} (h : pawnStd p src d c = true) :
    src.getRank = c.seventhRank ↔ d.rank = c.lastRank := by
  rw [getRank_seventh_iff]
  have hc := c.ranks
  rcases (pawn_dest_rank h).2 with h | ⟨h1, h2⟩
  · rw [h]
  · omega

theorem promoPieces_same (x : Piece) : promoPieces.contains x = true ↔ x ∈ promotionPieces := by
  cases x <;> decide

/-- the promotion condition of the specification in terms of the code's promotion list -/
theorem promoShape_iff (c : Color) (d : Sq) (q : Option Piece) :
    promoShape c d q = true ↔
      (if d.rank = c.lastRank then ∃ x ∈ promotionPieces, q = some x else q = none) := by
  unfold promoShape
  by_cases h : d.rank = c.lastRank
  · simp only [h, beq_self_eq_true, if_true]
    cases q with
    | none => simp
    | some x =>
      simp only [promoPieces_same, Option.some.injEq]
      constructor
      · intro hx; exact ⟨x, hx, rfl⟩
      · rintro ⟨y, hy, rfl⟩; exact hy
  · have : (d.rank == c.lastRank) = false := by simpa using h
    simp only [this, h, if_false, Bool.false_eq_true, Option.isNone_iff_eq_none]

end PseudoBits
end Chess
