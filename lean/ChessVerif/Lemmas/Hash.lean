import ChessVerif.Refine.Abs
import ChessVerif.Lemmas.BitBoard
/-! xor-fold algebra for the Zobrist hash. -/
namespace Chess

theorem xor_eq_zero_iff {a b : BB} : a ^^^ b = 0#64 ↔ a = b := BitVec.xor_eq_zero_iff

theorem bv_xor_right_comm (a x y : BB) : a ^^^ x ^^^ y = a ^^^ y ^^^ x := by
  rw [BitVec.xor_assoc, BitVec.xor_comm x y, ← BitVec.xor_assoc]

theorem xor_xor_cancel_left (a b : BB) : a ^^^ (a ^^^ b) = b := by
  rw [← BitVec.xor_assoc, BitVec.xor_self, BitVec.zero_xor]

theorem xor_xor_xor_comm (a b c d : BB) : (a ^^^ b) ^^^ (c ^^^ d) = (a ^^^ c) ^^^ (b ^^^ d) := by ac_rfl

/-- two five-fold xors agree iff the xor of the differences of their components vanishes: equal
components drop out by `xor_self` -/
theorem xor5_eq_iff {a e w b s a' e' w' b' s' : BB} :
    a ^^^ e ^^^ w ^^^ b ^^^ s = a' ^^^ e' ^^^ w' ^^^ b' ^^^ s' ↔
      (a ^^^ a') ^^^ (e ^^^ e') ^^^ (w ^^^ w') ^^^ (b ^^^ b') ^^^ (s ^^^ s') = 0#64 := by
  rw [← xor_eq_zero_iff (a := a ^^^ e ^^^ w ^^^ b ^^^ s), xor_xor_xor_comm, xor_xor_xor_comm _ b,
    xor_xor_xor_comm _ w, xor_xor_xor_comm a]

theorem foldl_xor_acc (f : Sq → BB) (l : List Sq) (a x : BB) :
    l.foldl (fun h s => h ^^^ f s) (a ^^^ x) = l.foldl (fun h s => h ^^^ f s) a ^^^ x := by
  induction l generalizing a with
  | nil => rfl
  | cons t ts ih => rw [List.foldl_cons, List.foldl_cons, bv_xor_right_comm, ih]

theorem foldl_xor_congr (f g : Sq → BB) (l : List Sq) (a : BB) (h : ∀ s ∈ l, f s = g s) :
    l.foldl (fun h s => h ^^^ f s) a = l.foldl (fun h s => h ^^^ g s) a := by
  induction l generalizing a with
  | nil => rfl
  | cons t ts ih =>
    rw [List.foldl_cons, List.foldl_cons, h t List.mem_cons_self, ih _ fun s hs => h s (List.mem_cons_of_mem _ hs)]

theorem foldl_xor_update (f g : Sq → BB) (l : List Sq) (a : BB) (s0 : Sq) (hnd : l.Nodup) (hmem : s0 ∈ l)
    (h : ∀ s, s ≠ s0 → f s = g s) :
    l.foldl (fun h s => h ^^^ g s) a = l.foldl (fun h s => h ^^^ f s) a ^^^ f s0 ^^^ g s0 := by
  induction l generalizing a with
  | nil => cases hmem
  | cons t ts ih =>
    rw [List.nodup_cons] at hnd
    rw [List.foldl_cons, List.foldl_cons]
    by_cases ht : t = s0
    · subst ht
      rw [← foldl_xor_congr f g ts _ fun s hs => h s fun e => hnd.1 (e ▸ hs), foldl_xor_acc, foldl_xor_acc,
        BitVec.xor_assoc _ (f t) (f t), BitVec.xor_self, BitVec.xor_zero]
    · rw [← h t ht]
      exact ih _ hnd.2 ((List.mem_cons.mp hmem).resolve_left (Ne.symm ht))

end Chess
