import ChessVerif.Props.Compose
import ChessVerif.Props.C10
import ChessVerif.Spec.Game
/-!
# The Model game (`Chess.Game`, model of `game.rs`) refines the Spec game (`Spec.GameSt`) — part A

`Sim T g sg`: the replay of the model game `g` does not panic, the board it yields is `Good` (consistent
bitboards and hash, from-scratch caches, valid position), describes the position of the Spec state `sg`,
and both have the same log.  Everything except `declare_draw` is simulated step by step here; draw claims
(which need the history and the half-move clock of the Spec state) are in `Lemmas/GameClaim.lean`.

Both sides answer a request in the same way (`Game.perform_eq`, `step_eq`): refuse if there is a result or the
request fails its own test (`Game.admits`, `specAdmits`), otherwise append it (`specPush`).  So one step of the
simulation (`perform_cases`) needs only that the two tests agree and that appending keeps the relation.
-/
namespace Chess
namespace GameRefine
open Chess.Game Chess.Final Chess.Props

variable {T : Tables}

def Sim (T : Tables) (g : Game) (sg : Spec.GameSt) : Prop :=
  ∃ cur, g.currentPosition T = some cur ∧ cur.Good T ∧ cur.abs = sg.pos ∧ g.moves = sg.log

theorem sim_init {b0 : Board} (h0 : b0.Good T) : Sim T ⟨b0, []⟩ (Spec.GameSt.init b0.abs) :=
  ⟨b0, rfl, h0, rfl, rfl⟩

theorem sim_result (hT : TablesOK T) {g : Game} {sg : Spec.GameSt} (h : Sim T g sg) :
    g.result T = some sg.result := by
  obtain ⟨cur, hc, hg, habs, hlog⟩ := h
  obtain ⟨h1, h2, h3⟩ := C04_status_exact hT hg
  have hstm : cur.stm = sg.pos.stm := by rw [← habs]; rfl
  rw [result_eq, hc, Option.map_some, hlog, hstm]
  unfold Spec.GameSt.result
  rw [← habs]
  cases hs : Chess.status cur.abs with
  | ongoing => rw [h3.mpr hs]; rfl
  | stalemate => rw [h2.mpr hs]
  | checkmate => rw [h1.mpr hs]

theorem sim_sideToMove {g : Game} {sg : Spec.GameSt} (h : Sim T g sg) : g.sideToMove = sg.pos.stm := by
  obtain ⟨cur, hc, _, habs, _⟩ := h
  rw [← currentPosition_stm T g hc, ← habs]; rfl

theorem sim_position {g : Game} {sg : Spec.GameSt} (h : Sim T g sg) :
    (g.currentPosition T).map Board.abs = some sg.pos := by
  obtain ⟨cur, hc, _, habs, _⟩ := h
  rw [hc, Option.map_some, habs]

theorem sim_log {g : Game} {sg : Spec.GameSt} (h : Sim T g sg) : g.moves = sg.log := by
  obtain ⟨_, _, _, _, hl⟩ := h; exact hl

theorem sim_snoc_other {g : Game} {sg : Spec.GameSt} (h : Sim T g sg) (a : Action) (ha : isMove a = false) :
    Sim T { g with moves := g.moves ++ [a] } { sg with log := sg.log ++ [a] } := by
  obtain ⟨cur, hc, hg, habs, hlog⟩ := h
  exact ⟨cur, (currentPosition_snoc_other T _ _ a ha).trans hc, hg, habs, by simp only [hlog]⟩

/-- appending a legal move keeps the relation; the Spec's history and clock are arbitrary here -/
theorem sim_snoc_move (hT : TablesOK T) {g : Game} {sg : Spec.GameSt} (h : Sim T g sg) (m : Move)
    (hl : legal sg.pos m = true) {H : List Pos} {k : Nat} :
    Sim T { g with moves := g.moves ++ [.makeMove m] }
      { pos := norm (apply sg.pos m), log := sg.log ++ [.makeMove m], history := H, clock := k } := by
  obtain ⟨cur, hc, hg, habs, hlog⟩ := h
  rw [← habs] at hl
  obtain ⟨b', hmk, hg', habs'⟩ := hg.makeMove hT hl
  refine ⟨b', ?_, hg', by rw [habs', habs], by simp only [hlog]⟩
  rw [currentPosition_snoc_move, show currentPosition T ⟨g.startPos, g.moves⟩ = some cur from hc]
  exact hmk

/-! ### the Spec's `step` in the form of `Game.perform_eq` -/

/-- the Spec's test of a request, beyond the absence of a result -/
def specAdmits (sg : Spec.GameSt) : Action → Bool
  | .makeMove m => legal sg.pos m
  | .acceptDraw => sg.acceptAllowed
  | .declareDraw => sg.claimable
  | _ => true

/-- the Spec state after accepting a request -/
def specPush (sg : Spec.GameSt) : Action → Spec.GameSt
  | .makeMove m =>
    { pos := norm (apply sg.pos m), log := sg.log ++ [.makeMove m],
      history := sg.history ++ [norm (apply sg.pos m)],
      clock := if Spec.GameSt.isCaptureOrPawn sg.pos m then 0 else sg.clock + 1 }
  | a => { sg with log := sg.log ++ [a] }

theorem step_eq (sg : Spec.GameSt) (a : Action) :
    sg.step a = if sg.result.isNone && specAdmits sg a then (specPush sg a, true) else (sg, false) := by
  unfold Spec.GameSt.step
  cases sg.result with
  | some r => rfl
  | none => cases a <;> rfl

/-- what `acceptAllowed` says, spelled out on the log -/
theorem acceptAllowed_iff (sg : Spec.GameSt) :
    sg.acceptAllowed = true ↔
      (∃ c, sg.log.getLast? = some (.offerDraw c)) ∨
      (∃ m pre, sg.log = pre ++ [.offerDraw sg.pos.stm.other, .makeMove m]) := by
  unfold Spec.GameSt.acceptAllowed Spec.GameSt.lastMover
  constructor
  · intro ha
    split at ha
    · rename_i c rest hr
      exact .inl ⟨c, by rw [← List.reverse_reverse sg.log, hr]; simp⟩
    · rename_i m c rest hr
      obtain rfl : c = sg.pos.stm.other := by simpa using ha
      exact .inr ⟨m, rest.reverse, by rw [← List.reverse_reverse sg.log, hr]; simp⟩
    · cases ha
  · rintro (⟨c, hc⟩ | ⟨m, pre, hm⟩)
    · obtain ⟨ys, hys⟩ := List.getLast?_eq_some_iff.1 hc
      rw [hys]; simp
    · rw [hm]; simp

/-- outside draw claims, the model's test of a request is the Spec's (when there is no result) -/
theorem admits_eq (hT : TablesOK T) {g : Game} {sg : Spec.GameSt} (h : Sim T g sg) {a : Action}
    (ha : a ≠ .declareDraw) (hr : sg.result = none) : Game.admits T g a = specAdmits sg a := by
  cases a with
  | declareDraw => exact absurd rfl ha
  | makeMove m =>
    obtain ⟨cur, hc, hg, habs, _⟩ := h
    simp only [Game.admits, specAdmits, hc, Option.any_some, legal_query_eq hT hg, habs]
  | acceptDraw =>
    have hres := sim_result hT h
    rw [hr] at hres
    rw [Bool.eq_iff_iff]
    simp only [Game.admits, specAdmits, acceptTest_iff hres, acceptAllowed_iff, sim_sideToMove h, sim_log h]
  | _ => rfl

/-! ### one request -/

/-- under `Sim` no request panics -/
theorem sim_perform_isSome (hT : TablesOK T) {g : Game} {sg : Spec.GameSt} (h : Sim T g sg) (a : Action) :
    (g.perform T a).isSome = true := by
  rw [perform_eq, sim_result hT h]; rfl

/-- model and Spec answer a request alike as soon as their tests of it agree: either both accept and
append it, or both refuse and stay as they are -/
theorem perform_cases (hT : TablesOK T) {g g' : Game} {sg : Spec.GameSt} (h : Sim T g sg) {a : Action}
    (hadm : sg.result = none → Game.admits T g a = specAdmits sg a) {acc : Bool}
    (hp : g.perform T a = some (g', acc)) :
    acc = (sg.step a).2 ∧
      (specAdmits sg a = true ∧ g' = { g with moves := g.moves ++ [a] } ∧ (sg.step a).1 = specPush sg a ∨
       g' = g ∧ (sg.step a).1 = sg) := by
  rw [perform_eq, sim_result hT h, Option.map_some, Option.some.injEq] at hp
  rw [step_eq]
  cases hr : sg.result with
  | some r => rw [hr] at hp; cases hp; exact ⟨rfl, .inr ⟨rfl, rfl⟩⟩
  | none =>
    rw [hr, hadm hr] at hp
    cases hs : specAdmits sg a <;> rw [hs] at hp <;> cases hp
    · exact ⟨rfl, .inr ⟨rfl, rfl⟩⟩
    · exact ⟨rfl, .inl ⟨rfl, rfl, rfl⟩⟩

theorem step_accepts_iff (sg : Spec.GameSt) (a : Action) :
    (sg.step a).2 = true ↔ sg.result = none ∧ specAdmits sg a = true := by
  rw [step_eq]
  cases sg.result <;> cases specAdmits sg a <;> simp

theorem sim_push (hT : TablesOK T) {g : Game} {sg : Spec.GameSt} (h : Sim T g sg) {a : Action}
    (ha : specAdmits sg a = true) : Sim T { g with moves := g.moves ++ [a] } (specPush sg a) := by
  cases a with
  | makeMove m => exact sim_snoc_move hT h m ha
  | _ => exact sim_snoc_other h _ rfl

/-- **one step of the simulation**: every request other than a draw claim gets the same answer from the model
and from the Spec, and the resulting states are related again -/
theorem sim_perform (hT : TablesOK T) {g g' : Game} {sg : Spec.GameSt} (h : Sim T g sg) {a : Action}
    (ha : a ≠ .declareDraw) {acc : Bool} (hp : g.perform T a = some (g', acc)) :
    acc = (sg.step a).2 ∧ Sim T g' (sg.step a).1 := by
  obtain ⟨hacc, ⟨hs, rfl, e⟩ | ⟨rfl, e⟩⟩ := perform_cases hT h (admits_eq hT h ha) hp <;> rw [e]
  · exact ⟨hacc, sim_push hT h hs⟩
  · exact ⟨hacc, h⟩

/-! ### a sequence of requests -/

/-- the Spec game run on a list of requests: final state and the accepted requests, in order -/
def specRun : Spec.GameSt → List Action → Spec.GameSt × List Action
  | sg, [] => (sg, [])
  | sg, a :: rest =>
    let r := specRun (sg.step a).1 rest
    (r.1, if (sg.step a).2 then a :: r.2 else r.2)

/-- **refinement, draw claims excluded**: on every list of requests the model run does not panic, accepts
exactly the requests the Spec accepts, and ends in a state related to the Spec's final state -/
theorem sim_run (hT : TablesOK T) {g : Game} {sg : Spec.GameSt} (h : Sim T g sg) (acts : List Action)
    (hnd : ∀ a ∈ acts, a ≠ Action.declareDraw) :
    ∃ gf, run T g acts = some (gf, (specRun sg acts).2) ∧ Sim T gf (specRun sg acts).1 := by
  induction acts generalizing g sg with
  | nil => exact ⟨g, rfl, h⟩
  | cons a rest ih =>
    obtain ⟨⟨g', acc⟩, hp⟩ := Option.isSome_iff_exists.1 (sim_perform_isSome hT h a)
    obtain ⟨hacc, hs'⟩ := sim_perform hT h (hnd a (by simp)) hp
    obtain ⟨gf, hrun, hsf⟩ := ih hs' (fun x hx => hnd x (by simp [hx]))
    refine ⟨gf, ?_, hsf⟩
    simp only [run, hp, hrun, Option.map_some, specRun, hacc]

/-- **the Spec run, computed by the model.**  From a valid position (in which `norm` has nothing to erase),
what the model run from the board set up through `try_from` accepts and reports is what the Spec run accepts
and reports.  (Evaluating the Spec itself is dear: its `status` tries every candidate move.) -/
theorem specRun_of_run (hT : TablesOK T) {p : Pos} (hv : Valid p = true) (hn : norm p = p)
    {acts accd : List Action} (hnd : ∀ a ∈ acts, a ≠ Action.declareDraw) {r : Option GameResult}
    (h : ((Board.tryFrom T p.toBuilder).bind fun b0 =>
        (run T ⟨b0, []⟩ acts).map fun x => (x.2, x.1.result T)) = some (accd, some r)) :
    (specRun (Spec.GameSt.init p) acts).2 = accd ∧ (specRun (Spec.GameSt.init p) acts).1.result = r := by
  obtain ⟨b0, htry, habs, hg⟩ := C01_good_of_valid_pos hT hv
  rw [hn] at habs
  obtain ⟨gf, hrun, hsim⟩ := sim_run hT (sim_init hg) acts hnd
  rw [habs] at hrun hsim
  rw [htry, Option.bind_some, hrun, Option.map_some, sim_result hT hsim] at h
  simpa using h

end GameRefine
end Chess
