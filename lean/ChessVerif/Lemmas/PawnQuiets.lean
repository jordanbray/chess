import ChessVerif.Lemmas.GeomBridge
/-! `get_pawn_quiets` with blockers equals the specification for every blocker set (C16). -/
namespace Chess


/-- The code tests the blocker on the square ahead with the wrapping `uforward`; on the last rank that
square is meaningless, but there the row of the push table is empty. -/
theorem pawnQuiets_exact {T : Tables} (hT : TablesOK T) (c : Color) (s : Sq) (bl : BB) :
    Board.pawnQuiets T s c bl = Geom.pawnQuiets c s bl := by
  have hc := c.ranks
  have ahead : ∀ y : Sq, y.file = s.file → y.rank = s.rank + c.fwd → y = s.uforward c := by
    intro y hf hr
    have hy := Sq.coord_bounds y
    exact Sq.ext_coord (by rw [Sq.uforward_file, hf]) (by rw [Sq.uforward_rank s c (by omega), hr])
  refine BB.ext fun x => Bool.eq_iff_iff.mpr ?_
  have hx := Sq.coord_bounds x
  rw [mem_pawnQuiets_coord]
  unfold Board.pawnQuiets BB.has
  rw [hT.pawnMoves, BitVec.and_comm (BB.ofSq _) bl]
  cases hb : bl.getLsbD (s.uforward c).val with
  | true =>
    rw [if_pos ((and_ofSq_ne_zero_iff _ _).mpr hb), BitVec.getLsbD_zero]
    refine ⟨fun h => absurd h Bool.false_ne_true, ?_⟩
    rintro ⟨hf, hbx, hr | ⟨_, _, o, ho1, ho2, hbo⟩⟩
    · rw [ahead x hf hr, hb] at hbx; cases hbx
    · rw [ahead o ho1 ho2, hb] at hbo; cases hbo
  | false =>
    rw [if_neg (mt (and_ofSq_ne_zero_iff _ _).mp (by rw [hb]; exact Bool.false_ne_true)), BitVec.getLsbD_and,
      BitVec.getLsbD_not, mem_pawnMoves]
    simp only [Bool.and_eq_true, Bool.or_eq_true, beq_iff_eq, decide_eq_true_eq, Bool.not_eq_true']
    constructor
    · rintro ⟨⟨hf, hr⟩, _, hbx⟩
      refine ⟨hf, hbx, hr.imp (by omega) fun ⟨h2, hp⟩ => ⟨by omega, hp, s.uforward c, ?_, ?_, hb⟩⟩
      · exact Sq.uforward_file s c
      · exact Sq.uforward_rank s c (by omega)
    · rintro ⟨hf, hbx, hr⟩
      exact ⟨⟨hf, hr.imp (by omega) fun ⟨h2, hp, _⟩ => ⟨by omega, hp⟩⟩, x.isLt, hbx⟩

end Chess
