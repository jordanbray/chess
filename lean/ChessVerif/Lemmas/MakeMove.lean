import ChessVerif.Lemmas.MoveSpec
/-!
`make_move_new` refines the specification's successor position (`apply`, with the recording policy
`norm` for the ep mark): placement, side to move, castling rights, ep mark; and keeps `Core`.
Side conditions: the ep mark (if any) is consistent (`Pos.EpSane`, a part of `epValid`) and castling
rights imply king and rook at home (`Pos.RightsSane`, the clause of `Valid`).  Both are needed:
see the counterexamples recorded in `Props/C02.lean`.
-/
namespace Chess

theorem nullMove_abs {T : Tables} {b b' : Board} (h : b.nullMove T = some b') :
    b'.abs = { b.abs with stm := b.stm.other, ep := none } := by
  obtain ⟨_, e⟩ := nullMove_some T b b' h
  subst e
  rfl

theorem pieceOn_of_content {b : Board} (h : Struct b) {s : Sq} {p : Piece} {c : Color}
    (hs : b.content s = some (p, c)) : b.pieceOn s = some p :=
  (pieceOn_some_iff h s p).mpr ((h.content_some_iff s p c).mp hs).1

theorem pieceOn_of_content_none {b : Board} (h : Struct b) {s : Sq} (hs : b.content s = none) :
    b.pieceOn s = none :=
  (pieceOn_none_iff b s).mpr ((h.content_none_iff s).mp hs)

/-- the mover/captured toggles of `make_move_new`: `Core` is kept, the mover stands on the destination -/
theorem moveBase_core {T : Tables} {b : Board} (hc : Core T b) {S D : Sq} {pc : Piece} {c : Color}
    (hS : b.content S = some (pc, c)) (hD : b.abs.colorAt D ≠ some c) :
    Core T (moveBase T b pc S D c (b.pieceOn D)) ∧
    ∀ t, (moveBase T b pc S D c (b.pieceOn D)).content t =
      if t = D then some (pc, c) else if t = S then none else b.content t := by
  cases hcont : b.content D with
  | none =>
    rw [pieceOn_of_content_none hc.toStruct hcont]
    exact hc.move_quiet hS hcont
  | some x =>
    obtain ⟨q, o⟩ := x
    rw [pieceOn_of_content hc.toStruct hcont]
    have ho : o ≠ c := fun e => hD ((colorAt_iff _ _ _).mpr ⟨q, e ▸ hcont⟩)
    have hne : S ≠ D := by
      intro e; rw [e, hcont] at hS
      injection hS with hS; injection hS with _ hS; exact ho hS
    have := hc.move_capture hS hcont hne
    rw [Color.eq_other_of_ne ho] at this
    exact this

/-- what phase 1 of `make_move_new` hands to phase 2: `Core` holds, the mover `pc` stands on the destination,
the side to move is still the mover's and the ep mark is cleared -/
structure Phase1 (T : Tables) (b : Board) (m : Move) (pc : Piece) (base : Board) : Prop where
  core : Core T base
  content : ∀ t, base.content t = if t = m.dst then some (pc, b.stm) else if t = m.src then none else b.content t
  stm : base.stm = b.stm
  ep : base.ep = none

theorem Phase1.of_mm1 {T : Tables} {b : Board} (hc : Core T b) {m : Move} {pc : Piece}
    (hS : b.content m.src = some (pc, b.stm)) (hD : b.abs.colorAt m.dst ≠ some b.stm) :
    Phase1 T b m pc (mm1 T b m pc) := by
  obtain ⟨hbase, hbc⟩ := moveBase_core hc hS hD
  have hs : SamePl (mm1 T b m pc) (moveBase T b pc m.src m.dst b.stm (b.pieceOn m.dst)) := mm1_pl T b m pc
  exact ⟨(hs.core_iff T).mpr hbase, hs.content_eq ▸ hbc, mm1_stm T b m pc, mm1_ep T b m pc⟩

/-- what has to be shown about the placement part of phase 2 applied to the board `base` of phase 1 -/
def PlaceGoal (T : Tables) (b : Board) (m : Move) (pc : Piece) (base : Board) : Prop :=
  Core T (mmPlace T b.stm b.ep m pc base) ∧
  (∀ t, (mmPlace T b.stm b.ep m pc base).content t = (apply b.abs m).board t) ∧
  (mmPlace T b.stm b.ep m pc base).ep = (norm (apply b.abs m)).ep

/-- the plain case: nothing but the mover (and the captured man) changes -/
theorem Phase1.plain_content {T : Tables} {b : Board} {m : Move} {pc : Piece} {base : Board}
    (h1 : Phase1 T b m pc base) (hS : b.content m.src = some (pc, b.stm))
    (hc : isCastle b.abs m = false) (he : isEnPassant b.abs m = false) (hnp : pc = .pawn → m.promo = none)
    (t : Sq) : base.content t = (apply b.abs m).board t := by
  rw [apply_board_plain hc he, h1.content, movedMan_eq (show b.abs.board m.src = some (pc, b.stm) from hS),
    finalMan_of_no_promo hnp]
  rfl

theorem Phase1.place_plain {T : Tables} {b : Board} {m : Move} {pc : Piece} {base : Board}
    (h1 : Phase1 T b m pc base) (hS : b.content m.src = some (pc, b.stm))
    (hm : mmPlace T b.stm b.ep m pc base = base)
    (hc : isCastle b.abs m = false) (he : isEnPassant b.abs m = false) (hd : isDoubleStep b.abs m = false)
    (hnp : pc = .pawn → m.promo = none) : PlaceGoal T b m pc base := by
  unfold PlaceGoal
  rw [hm, norm_apply_ep_none hd]
  exact ⟨h1.core, h1.plain_content hS hc he hnp, h1.ep⟩

/-- king moves, castling included -/
theorem Phase1.place_king {T : Tables} (hT : TablesOK T) {b : Board} {m : Move} {base : Board}
    (h1 : Phase1 T b m .king base) (hpl : pseudoLegal b.abs m = true)
    (hS : b.content m.src = some (.king, b.stm)) : PlaceGoal T b m .king base := by
  have hS' : b.abs.board m.src = some (.king, b.abs.stm) := hS
  obtain ⟨he, hd⟩ := not_pawn_flags hS' (by decide)
  have hmc := mmCastles_eq_isCastle hT hpl hS'
  have kc := king_cases hpl hS'
  simp only [abs_stm, abs_board] at kc
  rcases kc with ⟨hc, _⟩ | ⟨hc, _, _, _, hD, rs, re, hrs, hre, hhs, hhe, hrook, hempty, n1, n2, n3, n4, n5⟩
  · exact h1.place_plain hS (mmPlace_of_not_pawn _ _ _ (by decide) (hmc.trans hc)) hc he hd (fun e => by cases e)
  · unfold PlaceGoal
    rw [mmPlace_castle _ _ _ (hmc.trans hc), norm_apply_ep_none hd, ← hrs, ← hre]
    have hr : base.content rs = some (.rook, b.stm) := by rw [h1.content, if_neg n2, if_neg n1, hrook]
    obtain ⟨c1, k1⟩ := h1.core.remove hr
    have h2 : (base.xor T .rook (BB.ofSq rs) b.stm).content re = none := by
      rw [k1, if_neg n5, h1.content, if_neg n4, if_neg n3, hempty]
    obtain ⟨c2, k2⟩ := c1.add .rook b.stm h2
    refine ⟨c2, ?_, by rw [xor_ep, xor_ep, h1.ep]⟩
    intro t
    rw [apply_board_castle hc he hhs hhe, k2, k1, h1.content, movedMan_eq hS']
    by_cases t1 : t = m.dst
    · rw [if_pos t1, if_neg (by rw [t1]; exact Ne.symm n4), if_neg (by rw [t1]; exact Ne.symm n2), if_pos t1]
      rfl
    · rw [if_neg t1, if_neg t1]
      by_cases t2 : t = m.src
      · rw [if_pos t2, if_neg (by rw [t2]; exact Ne.symm n3), if_neg (by rw [t2]; exact Ne.symm n1), if_pos t2]
      · rw [if_neg t2, if_neg t2]
        by_cases t3 : t = rs
        · rw [if_pos t3, if_neg (by rw [t3]; exact Ne.symm n5), if_pos t3]
        · rw [if_neg t3, if_neg t3]
          by_cases t4 : t = re
          · rw [if_pos t4, if_pos t4]; rfl
          · rw [if_neg t4, if_neg t4]; rfl

/-- pawn moves: push, double push (ep mark), capture, promotion, en passant -/
theorem Phase1.place_pawn {T : Tables} (hT : TablesOK T) {b : Board} {m : Move} {base : Board}
    (h1 : Phase1 T b m .pawn base) (hpl : pseudoLegal b.abs m = true) (hep : b.abs.EpSane)
    (hS : b.content m.src = some (.pawn, b.stm)) : PlaceGoal T b m .pawn base := by
  have hS' : b.abs.board m.src = some (.pawn, b.abs.stm) := hS
  have hc := isCastle_not_king hS' (by decide)
  -- the two tests of the model are the two flags of the specification
  have hdbl : mmDbl T m ↔ isDoubleStep b.abs m = true := mmDbl_iff_isDoubleStep hT hpl hS'
  have hept : some (m.dst.ubackward b.stm) = b.ep ↔ isEnPassant b.abs m = true := ep_test_iff hpl hS' hep
  rcases pawn_kinds hpl hS' with ⟨he, hd, _⟩ | ⟨he, hd, hq, _⟩ | ⟨he, hd, _, _, hD, v, hv, hpe, hvict⟩
  · have hnd : ¬ mmDbl T m := fun h => by rw [hdbl.mp h] at hd; cases hd
    have hne : ¬ some (m.dst.ubackward b.stm) = b.ep := fun h => by rw [hept.mp h] at he; cases he
    cases hq : m.promo with
    | none => exact h1.place_plain hS (by rw [mmPlace_pawn _ _ _ hq, if_neg hnd, if_neg hne]) hc he hd (fun _ => hq)
    | some q =>
      unfold PlaceGoal
      rw [mmPlace_promo _ _ _ hq, norm_apply_ep_none hd]
      have hp : base.content m.dst = some (.pawn, b.stm) := by rw [h1.content, if_pos rfl]
      obtain ⟨c1, k1⟩ := h1.core.remove hp
      have h2 : (base.xor T .pawn (BB.ofSq m.dst) b.stm).content m.dst = none := by rw [k1, if_pos rfl]
      obtain ⟨c2, k2⟩ := c1.add q b.stm h2
      refine ⟨c2, ?_, by rw [xor_ep, xor_ep, h1.ep]⟩
      intro t
      rw [apply_board_plain hc he, k2, k1, h1.content, movedMan_eq hS', finalMan, hq]
      by_cases t1 : t = m.dst
      · rw [if_pos t1, if_pos t1]; rfl
      · rw [if_neg t1, if_neg t1, if_neg t1, if_neg t1]; rfl
  · -- double push
    have hcont : ∀ t, base.content t = (apply b.abs m).board t := h1.plain_content hS hc he (fun _ => hq)
    unfold PlaceGoal
    rw [mmPlace_pawn _ _ _ hq, if_pos (hdbl.mpr hd)]
    refine ⟨(samePl_setEp T base m.dst).core_iff T |>.mpr h1.core, ?_, ?_⟩
    · rw [(samePl_setEp T base m.dst).content_eq]; exact hcont
    · exact setEp_ep_eq_norm hT h1.core.toStruct hcont (congrArg Color.other h1.stm) h1.ep
        (by rw [Closure.apply_ep, if_pos hd])
  · -- en passant: the victim `v` is the pawn behind the destination
    have hq := enPassant_promo hpl hS' hep he
    have hnd : ¬ mmDbl T m := fun h => by rw [hdbl.mp h] at hd; cases hd
    have hub : m.dst.ubackward b.stm = v := Option.some.inj ((hept.mpr he).trans hpe)
    unfold PlaceGoal
    rw [mmPlace_pawn _ _ _ hq, if_neg hnd, if_pos (hept.mpr he), norm_apply_ep_none hd, hub]
    have hsf : m.src.file ≠ m.dst.file := ((isEnPassant_pawn hS').mp he).1
    have n1 : v ≠ m.src := fun e => hsf (e ▸ (sq?_eq_some.mp hv).1)
    have n2 : v ≠ m.dst := by
      intro e; rw [e, hD] at hvict; cases hvict
    have hp : base.content v = some (.pawn, b.stm.other) := by rw [h1.content, if_neg n2, if_neg n1]; exact hvict
    obtain ⟨c1, k1⟩ := h1.core.remove hp
    refine ⟨c1, ?_, by rw [xor_ep, h1.ep]⟩
    intro t
    rw [apply_board_ep hc he hv, k1, h1.content, movedMan_eq hS', finalMan_of_no_promo fun _ => hq]
    by_cases t1 : t = m.dst
    · rw [if_pos t1, if_neg (by rw [t1]; exact Ne.symm n2), if_pos t1]; rfl
    · rw [if_neg t1, if_neg t1]
      by_cases t2 : t = m.src
      · rw [if_pos t2, if_neg (by rw [t2]; exact Ne.symm n1), if_pos t2]
      · rw [if_neg t2, if_neg t2]
        by_cases t3 : t = v
        · rw [if_pos t3, if_pos t3]
        · rw [if_neg t3, if_neg t3]; rfl

theorem Phase1.place {T : Tables} (hT : TablesOK T) {b : Board} {m : Move} {pc : Piece} {base : Board}
    (h1 : Phase1 T b m pc base) (hpl : pseudoLegal b.abs m = true) (hep : b.abs.EpSane)
    (hS : b.content m.src = some (pc, b.stm)) : PlaceGoal T b m pc base := by
  have hS' : b.abs.board m.src = some (pc, b.stm) := hS
  by_cases hp : pc = .pawn
  · subst hp; exact h1.place_pawn hT hpl hep hS
  · by_cases hk : pc = .king
    · subst hk; exact h1.place_king hT hpl hS
    · -- knight, bishop, rook, queen
      exact h1.place_plain hS (mmPlace_of_not_pawn _ _ _ hp (mmCastles_not_king T m hk)) (isCastle_not_king hS' hk)
        (not_pawn_flags hS' hp).1 (not_pawn_flags hS' hp).2 (fun e => absurd e hp)

/-- **`make_move_new` refines `apply`** (C02), and keeps the invariant (C05 sanity part, C08) -/
theorem make_move_refines {T : Tables} (hT : TablesOK T) {b : Board} (hc : Core T b) {m : Move}
    (hpl : pseudoLegal b.abs m = true) (hep : b.abs.EpSane) (hrs : b.abs.RightsSane) :
    ∃ b', b.makeMoveNew T m = some b' ∧ Core T b' ∧ b'.content = (apply b.abs m).board ∧
      b'.stm = b.stm.other ∧
      (∀ c, (b'.castleRights c).ks = (apply b.abs m).castleK c ∧
            (b'.castleRights c).qs = (apply b.abs m).castleQ c) ∧
      b'.ep = (norm (apply b.abs m)).ep := by
  obtain ⟨pc, hsrc, hdc⟩ := pseudoLegal_src hpl
  have hS : b.content m.src = some (pc, b.stm) := hsrc
  obtain ⟨x, y, hmk⟩ := makeMoveNew_some T b m pc (pieceOn_of_content hc.toStruct hS)
  obtain ⟨g1, g2, g3⟩ := (Phase1.of_mm1 hc hS hdc).place hT hpl hep hS
  have hs : SamePl ((mmPlace T b.stm b.ep m pc (mm1 T b m pc)).finish x y) (mmPlace T b.stm b.ep m pc (mm1 T b m pc)) :=
    pl_finish ..
  refine ⟨_, hmk, (hs.core_iff T).mpr g1, ?_, ?_, ?_, g3⟩
  · rw [hs.content_eq]; exact funext g2
  · show (mmPlace T b.stm b.ep m pc (mm1 T b m pc)).stm.other = _
    rw [mmPlace_stm, mm1_stm]
  · intro d
    show ((mmPlace T b.stm b.ep m pc (mm1 T b m pc)).castleRights d).ks = _ ∧
      ((mmPlace T b.stm b.ep m pc (mm1 T b m pc)).castleRights d).qs = _
    rw [mmPlace_castleRights, mm1_castleRights]
    exact rights_agree hrs hsrc hdc d

theorem Pos.ext' {p q : Pos} (h1 : p.board = q.board) (h2 : p.stm = q.stm) (h3 : p.castleK = q.castleK)
    (h4 : p.castleQ = q.castleQ) (h5 : p.ep = q.ep) : p = q := by
  cases p; cases q
  simp only at h1 h2 h3 h4 h5
  subst h1 h2 h3 h4 h5
  rfl

theorem abs_eq_of_fields {b₁ b₂ : Board} (hcont : ∀ s, b₁.content s = b₂.content s) (hs : b₁.stm = b₂.stm)
    (hw : b₁.wcr = b₂.wcr) (hb : b₁.bcr = b₂.bcr) (he : b₁.ep = b₂.ep) : b₁.abs = b₂.abs := by
  have hcr : ∀ c, b₁.castleRights c = b₂.castleRights c := castleRights_of_fields hw hb
  exact Pos.ext' (funext hcont) hs (funext fun c => congrArg CastleRights.ks (hcr c))
    (funext fun c => congrArg CastleRights.qs (hcr c)) he

/-- the refinement as one equation between positions -/
theorem make_move_abs {T : Tables} (hT : TablesOK T) {b : Board} (hc : Core T b) {m : Move}
    (hpl : pseudoLegal b.abs m = true) (hep : b.abs.EpSane) (hrs : b.abs.RightsSane) :
    ∃ b', b.makeMoveNew T m = some b' ∧ Core T b' ∧ b'.abs = norm (apply b.abs m) := by
  obtain ⟨b', h1, h2, h3, h4, h5, h6⟩ := make_move_refines hT hc hpl hep hrs
  exact ⟨b', h1, h2, Pos.ext' h3 h4 (funext fun c => (h5 c).1) (funext fun c => (h5 c).2) h6⟩

/-- `none` (the `unwrap()` panic) exactly on an empty source square -/
theorem makeMoveNew_none_iff (T : Tables) (b : Board) (m : Move) :
    b.makeMoveNew T m = none ↔ b.pieceOn m.src = none := by
  rw [makeMoveNew_eq]
  cases b.pieceOn m.src with
  | none => exact ⟨fun _ => rfl, fun _ => rfl⟩
  | some pc => exact ⟨fun h => (by cases h), fun h => (by cases h)⟩

end Chess
