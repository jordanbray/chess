import ChessVerif.Lemmas.BitBoard
import ChessVerif.Refine.Abs
import ChessVerif.Lemmas.Hash
/-!
`Core T b`: the structural invariant of a `Board` — piece boards pairwise disjoint, colour boards
disjoint and covering exactly `combined`, every occupied square has a piece kind, and the raw
`hash` field is the xor of the placement keys.  Established by `try_from`, preserved by every
single-man toggle that `make_move` performs (`Core.add`, `Core.remove`).

The invariant is local: `Struct b` says that the bits of every square `i` are those of a square holding
one man or none (`b.Shows i m`), and `m` is then what the per-square queries report (`Board.content`).
A toggle `Board.xor` changes what one square shows and nothing else.
-/
namespace Chess

abbrev Board.pbit (b : Board) (p : Piece) (i : Nat) : Bool := (b.pieces p).getLsbD i
abbrev Board.cbit (b : Board) (c : Color) (i : Nat) : Bool := (b.colorCombined c).getLsbD i

/-- placement key of square `s` as read through the per-square queries -/
def keyAt (T : Tables) (b : Board) (s : Sq) : BB :=
  match b.pieceOn s, b.colorOn s with
  | some p, some c => T.zPiece c p s
  | _, _ => 0#64

def placementHash (T : Tables) (b : Board) : BB := allSq.foldl (fun h s => h ^^^ keyAt T b s) 0#64

/-- the structural part: boards disjoint and consistent -/
structure Struct (b : Board) : Prop where
  piece_disj : ∀ i x y, x ≠ y → b.pbit x i = true → b.pbit y i = false
  color_disj : ∀ i, b.white.getLsbD i = true → b.black.getLsbD i = false
  comb_color : ∀ i, b.combined.getLsbD i = (b.white.getLsbD i || b.black.getLsbD i)
  comb_piece : ∀ i, b.combined.getLsbD i = true ↔ ∃ p, b.pbit p i = true

structure Core (T : Tables) (b : Board) : Prop extends Struct b where
  hash : b.hash = placementHash T b

/-- the content of a square, read from the bits -/
def Board.content (b : Board) (s : Sq) : Option (Piece × Color) :=
  match b.pieceOn s, b.colorOn s with
  | some p, some c => some (p, c)
  | _, _ => none

theorem abs_board (b : Board) : b.abs.board = b.content := rfl
theorem abs_stm (b : Board) : b.abs.stm = b.stm := rfl
theorem abs_ep (b : Board) : b.abs.ep = b.ep := rfl

theorem keyAt_content (T : Tables) (b : Board) (s : Sq) :
    keyAt T b s = match b.content s with | some (p, c) => T.zPiece c p s | none => 0#64 := by
  unfold keyAt Board.content
  cases b.pieceOn s <;> cases b.colorOn s <;> rfl

theorem cbit_white (b : Board) (i : Nat) : b.cbit .white i = b.white.getLsbD i := rfl
theorem cbit_black (b : Board) (i : Nat) : b.cbit .black i = b.black.getLsbD i := rfl

/-! ### per-square queries in terms of bits -/

/-- the kind `piece_on` reports for an occupied square, as a function of the five bits it reads -/
def kindOfBits (pp nn bb rr qq : Bool) : Piece :=
  if ((pp ^^ nn) ^^ bb) = true then
    (if pp = true then .pawn else if nn = true then .knight else .bishop)
  else (if rr = true then .rook else if qq = true then .queen else .king)

theorem pieceOn_bits (b : Board) (s : Sq) :
    b.pieceOn s = if b.combined.getLsbD s.val = true then
      some (kindOfBits (b.pbit .pawn s.val) (b.pbit .knight s.val) (b.pbit .bishop s.val) (b.pbit .rook s.val)
        (b.pbit .queen s.val)) else none := by
  unfold Board.pieceOn kindOfBits
  simp only [and_ofSq_eq_zero_iff, and_ofSq_ne_zero_iff, BitVec.getLsbD_xor, apply_ite some]
  cases b.combined.getLsbD s.val <;> rfl

theorem pieceOn_none_iff (b : Board) (s : Sq) : b.pieceOn s = none ↔ b.combined.getLsbD s.val = false := by
  rw [pieceOn_bits]
  cases b.combined.getLsbD s.val <;> simp

theorem colorOn_bits (b : Board) (s : Sq) :
    b.colorOn s = if b.white.getLsbD s.val = true then some .white
                  else if b.black.getLsbD s.val = true then some .black else none := by
  unfold Board.colorOn
  simp only [and_ofSq_ne_zero_iff]

theorem colorOn_white {b : Board} {s : Sq} (hw : b.white.getLsbD s.val = true) : b.colorOn s = some .white := by
  rw [colorOn_bits, if_pos hw]
theorem colorOn_black {b : Board} {s : Sq} (hw : b.white.getLsbD s.val = false) (hb : b.black.getLsbD s.val = true) :
    b.colorOn s = some .black := by
  rw [colorOn_bits, if_neg (by rw [hw]; decide), if_pos hb]
theorem colorOn_none {b : Board} {s : Sq} (hw : b.white.getLsbD s.val = false) (hb : b.black.getLsbD s.val = false) :
    b.colorOn s = none := by
  rw [colorOn_bits, if_neg (by rw [hw]; decide), if_neg (by rw [hb]; decide)]

/-! ### what a square shows -/

/-- the bits of square `i` are those of a square holding the man `m`, or of an empty square -/
structure Board.Shows (b : Board) (i : Nat) (m : Option (Piece × Color)) : Prop where
  piece : ∀ q, b.pbit q i = m.any (·.1 == q)
  color : ∀ d, b.cbit d i = m.any (·.2 == d)
  comb : b.combined.getLsbD i = m.isSome

theorem Board.Shows.pieceOn {b : Board} {s : Sq} {m : Option (Piece × Color)} (h : b.Shows s.val m) :
    b.pieceOn s = m.map (·.1) := by
  rw [pieceOn_bits, h.comb, h.piece, h.piece, h.piece, h.piece, h.piece]
  cases m with
  | none => rfl
  | some pc => obtain ⟨p, c⟩ := pc; cases p <;> rfl

theorem Board.Shows.colorOn {b : Board} {s : Sq} {m : Option (Piece × Color)} (h : b.Shows s.val m) :
    b.colorOn s = m.map (·.2) := by
  rw [colorOn_bits, ← cbit_white, ← cbit_black, h.color, h.color]
  cases m with
  | none => rfl
  | some pc => obtain ⟨p, c⟩ := pc; cases c <;> rfl

theorem Board.Shows.content {b : Board} {s : Sq} {m : Option (Piece × Color)} (h : b.Shows s.val m) :
    b.content s = m := by
  unfold Board.content
  rw [h.pieceOn, h.colorOn]
  cases m <;> rfl

theorem Struct.shows {b : Board} (h : Struct b) (i : Nat) : ∃ m, b.Shows i m := by
  have hcol := h.comb_color i
  cases hc : b.combined.getLsbD i with
  | false =>
    rw [hc, Eq.comm, Bool.or_eq_false_iff] at hcol
    refine ⟨none, fun q => Bool.eq_false_iff.mpr fun hq => ?_, fun d => ?_, hc⟩
    · rw [(h.comb_piece i).mpr ⟨q, hq⟩] at hc; cases hc
    · cases d
      · exact hcol.1
      · exact hcol.2
  | true =>
    obtain ⟨p, hp⟩ := (h.comb_piece i).mp hc
    have hpiece : ∀ q, b.pbit q i = (p == q) := fun q => by
      by_cases hq : p = q
      · rw [← hq, hp, beq_self_eq_true]
      · rw [h.piece_disj i p q hq hp, beq_false_of_ne hq]
    cases hw : b.white.getLsbD i with
    | true =>
      refine ⟨some (p, .white), hpiece, fun d => ?_, hc⟩
      cases d
      · exact hw
      · exact h.color_disj i hw
    | false =>
      rw [hc, hw, Bool.false_or] at hcol
      refine ⟨some (p, .black), hpiece, fun d => ?_, hc⟩
      cases d
      · exact hw
      · exact hcol.symm

theorem Struct.shows_content {b : Board} (h : Struct b) (s : Sq) : b.Shows s.val (b.content s) := by
  obtain ⟨m, hm⟩ := h.shows s.val
  rw [hm.content]; exact hm

theorem Struct.of_shows {b : Board} (h : ∀ i, ∃ m, b.Shows i m) : Struct b where
  piece_disj i x y hxy hx := by
    obtain ⟨m, hm⟩ := h i
    rw [hm.piece] at hx ⊢
    cases m with
    | none => rfl
    | some pc => rw [Option.any_some, beq_iff_eq] at hx; rw [Option.any_some, hx, beq_false_of_ne hxy]
  color_disj i hw := by
    obtain ⟨m, hm⟩ := h i
    rw [← cbit_white, hm.color] at hw
    rw [← cbit_black, hm.color]
    cases m with
    | none => rfl
    | some pc => rw [Option.any_some, beq_iff_eq] at hw; rw [Option.any_some, hw]; rfl
  comb_color i := by
    obtain ⟨m, hm⟩ := h i
    rw [hm.comb, ← cbit_white, ← cbit_black, hm.color, hm.color]
    cases m with
    | none => rfl
    | some pc => obtain ⟨p, c⟩ := pc; cases c <;> rfl
  comb_piece i := by
    obtain ⟨m, hm⟩ := h i
    rw [hm.comb]
    cases m with
    | none => exact ⟨nofun, fun ⟨q, hq⟩ => by rw [hm.piece] at hq; cases hq⟩
    | some pc => exact ⟨fun _ => ⟨pc.1, by rw [hm.piece, Option.any_some, beq_self_eq_true]⟩, fun _ => rfl⟩

theorem pieceOn_some_iff {b : Board} (h : Struct b) (s : Sq) (p : Piece) :
    b.pieceOn s = some p ↔ b.pbit p s.val = true := by
  obtain ⟨m, hm⟩ := h.shows s.val
  rw [hm.pieceOn, hm.piece]
  cases m <;> simp

theorem colorOn_some_iff {b : Board} (hs : Struct b) (s : Sq) (c : Color) :
    b.colorOn s = some c ↔ (b.colorCombined c).getLsbD s.val = true := by
  rw [colorOn_bits]
  cases c
  · show _ ↔ b.white.getLsbD s.val = true
    by_cases hw : b.white.getLsbD s.val = true
    · rw [if_pos hw]; exact iff_of_true rfl hw
    · rw [if_neg hw]; refine iff_of_false ?_ hw
      split <;> exact fun h => by cases h
  · show _ ↔ b.black.getLsbD s.val = true
    by_cases hb : b.black.getLsbD s.val = true
    · -- the white bit is clear where the black one is set
      have hw : ¬ b.white.getLsbD s.val = true := fun hw => by rw [hs.color_disj _ hw] at hb; cases hb
      rw [if_neg hw, if_pos hb]; exact iff_of_true rfl hb
    · rw [if_neg hb]; refine iff_of_false ?_ hb
      split <;> exact fun h => by cases h

theorem colorOn_none_iff {b : Board} (hs : Struct b) (s : Sq) :
    b.colorOn s = none ↔ b.combined.getLsbD s.val = false := by
  rw [colorOn_bits, hs.comb_color]
  cases hw : b.white.getLsbD s.val <;> cases hb : b.black.getLsbD s.val <;> simp

theorem combined_eq_colors {b : Board} (hs : Struct b) : b.combined = b.white ||| b.black := by
  apply BitVec.eq_of_getLsbD_eq
  intro i _
  rw [hs.comb_color, BitVec.getLsbD_or]

theorem Struct.content_none_iff {b : Board} (h : Struct b) (s : Sq) :
    b.content s = none ↔ b.combined.getLsbD s.val = false := by
  obtain ⟨m, hm⟩ := h.shows s.val
  rw [hm.content, hm.comb]
  cases m <;> simp

theorem Struct.content_some_iff {b : Board} (h : Struct b) (s : Sq) (p : Piece) (c : Color) :
    b.content s = some (p, c) ↔ b.pbit p s.val = true ∧ b.cbit c s.val = true := by
  obtain ⟨m, hm⟩ := h.shows s.val
  rw [hm.content, hm.piece, hm.color]
  cases m <;> simp [Prod.ext_iff]

theorem Struct.empty_bits {b : Board} (h : Struct b) (i : Nat) (he : b.combined.getLsbD i = false) :
    (∀ q, b.pbit q i = false) ∧ b.white.getLsbD i = false ∧ b.black.getLsbD i = false := by
  obtain ⟨m, hm⟩ := h.shows i
  cases m with
  | none => exact ⟨hm.piece, hm.color .white, hm.color .black⟩
  | some pc => rw [hm.comb] at he; cases he

theorem Struct.color_of_comb {b : Board} (h : Struct b) (i : Nat) :
    b.combined.getLsbD i = true → (b.white.getLsbD i = true ∨ b.black.getLsbD i = true) := by
  rw [h.comb_color, Bool.or_eq_true]
  exact id

/-! ### the hash is a function of the position (C08) -/

theorem placementHash_eq_abs (T : Tables) (b : Board) :
    placementHash T b = allSq.foldl (fun h s => match b.abs.board s with
      | some (pc, c) => h ^^^ T.zPiece c pc s
      | none => h) 0#64 := by
  unfold placementHash
  congr 1
  funext h s
  rw [keyAt_content, abs_board]
  cases b.content s with
  | none => exact BitVec.xor_zero
  | some pc => rfl

/-- `get_hash` of a board whose raw hash is the placement hash depends only on the position -/
theorem getHash_eq_hashOf (T : Tables) (b : Board) (h : b.hash = placementHash T b) :
    b.getHash T = b.abs.hashOf T := by
  unfold Board.getHash Pos.hashOf
  have e1 : b.abs.ep = b.ep := rfl
  have e2 : b.abs.stm = b.stm := rfl
  have e3 : ∀ c, (⟨b.abs.castleK c, b.abs.castleQ c⟩ : CastleRights) = b.castleRights c := fun c => rfl
  rw [h, placementHash_eq_abs, e1, e2, e3, e3]
  cases b.stm with
  | white => rfl
  | black => exact congrArg (· ^^^ T.zSide) (bv_xor_right_comm _ _ _)

/-! ### field lemmas for `Board.xor`

`Board.xor` is opened before the case split, by `unfold` or by a `show` that names its two layers: `rfl`
through the three nested definitions is several times dearer to check. -/

theorem xor_pieces (T : Tables) (b : Board) (p q : Piece) (bb : BB) (c : Color) :
    (b.xor T p bb c).pieces q = if q = p then b.pieces q ^^^ bb else b.pieces q := by
  have hc : ∀ b' : Board, (b'.xorColor c bb).pieces q = b'.pieces q := fun b' => by cases c <;> rfl
  show ((b.xorPieces p bb).xorColor c bb).pieces q = _
  rw [hc]
  cases p <;> cases q <;> rfl

theorem xor_colorCombined (T : Tables) (b : Board) (p : Piece) (bb : BB) (c d : Color) :
    (b.xor T p bb c).colorCombined d = if d = c then b.colorCombined d ^^^ bb else b.colorCombined d := by
  unfold Board.xor Board.xorColor Board.xorPieces; cases p <;> cases c <;> cases d <;> rfl

theorem xor_combined (T : Tables) (b : Board) (p : Piece) (bb : BB) (c : Color) :
    (b.xor T p bb c).combined = b.combined ^^^ bb := by
  unfold Board.xor Board.xorColor Board.xorPieces; cases p <;> cases c <;> rfl

theorem xor_hash (T : Tables) (b : Board) (p : Piece) (bb : BB) (c : Color) :
    (b.xor T p bb c).hash = b.hash ^^^ T.zPiece c p bb.toSq := by
  unfold Board.xor Board.xorColor Board.xorPieces; cases p <;> cases c <;> rfl

theorem xor_stm (T : Tables) (b : Board) (p : Piece) (bb : BB) (c : Color) : (b.xor T p bb c).stm = b.stm := by
  unfold Board.xor Board.xorColor Board.xorPieces; cases p <;> cases c <;> rfl
theorem xor_ep (T : Tables) (b : Board) (p : Piece) (bb : BB) (c : Color) : (b.xor T p bb c).ep = b.ep := by
  unfold Board.xor Board.xorColor Board.xorPieces; cases p <;> cases c <;> rfl
theorem xor_wcr (T : Tables) (b : Board) (p : Piece) (bb : BB) (c : Color) : (b.xor T p bb c).wcr = b.wcr := by
  unfold Board.xor Board.xorColor Board.xorPieces; cases p <;> cases c <;> rfl
theorem xor_bcr (T : Tables) (b : Board) (p : Piece) (bb : BB) (c : Color) : (b.xor T p bb c).bcr = b.bcr := by
  unfold Board.xor Board.xorColor Board.xorPieces; cases p <;> cases c <;> rfl
theorem xor_pinned (T : Tables) (b : Board) (p : Piece) (bb : BB) (c : Color) : (b.xor T p bb c).pinned = b.pinned := by
  unfold Board.xor Board.xorColor Board.xorPieces; cases p <;> cases c <;> rfl
theorem xor_checkers (T : Tables) (b : Board) (p : Piece) (bb : BB) (c : Color) : (b.xor T p bb c).checkers = b.checkers := by
  unfold Board.xor Board.xorColor Board.xorPieces; cases p <;> cases c <;> rfl

/-! ### toggling one man -/

theorem xor_pbit (T : Tables) (b : Board) (p q : Piece) (s : Sq) (c : Color) (i : Nat) :
    (b.xor T p (BB.ofSq s) c).pbit q i = (b.pbit q i ^^ (decide (i = s.val) && p == q)) := by
  unfold Board.pbit
  rw [xor_pieces]
  by_cases hq : q = p
  · rw [if_pos hq, BitVec.getLsbD_xor, BB.getLsbD_ofSq, hq, beq_self_eq_true, Bool.and_true]
  · rw [if_neg hq, beq_false_of_ne (Ne.symm hq), Bool.and_false, Bool.xor_false]

theorem xor_cbit (T : Tables) (b : Board) (p : Piece) (s : Sq) (c d : Color) (i : Nat) :
    (b.xor T p (BB.ofSq s) c).cbit d i = (b.cbit d i ^^ (decide (i = s.val) && c == d)) := by
  unfold Board.cbit
  rw [xor_colorCombined]
  by_cases hd : d = c
  · rw [if_pos hd, BitVec.getLsbD_xor, BB.getLsbD_ofSq, hd, beq_self_eq_true, Bool.and_true]
  · rw [if_neg hd, beq_false_of_ne (Ne.symm hd), Bool.and_false, Bool.xor_false]

theorem xor_combbit (T : Tables) (b : Board) (p : Piece) (s : Sq) (c : Color) (i : Nat) :
    (b.xor T p (BB.ofSq s) c).combined.getLsbD i = (b.combined.getLsbD i ^^ decide (i = s.val)) := by
  rw [xor_combined, BitVec.getLsbD_xor, BB.getLsbD_ofSq]

theorem Board.Shows.xor_off {b : Board} {i : Nat} {m : Option (Piece × Color)} (h : b.Shows i m) (T : Tables)
    (p : Piece) {s : Sq} (c : Color) (hi : i ≠ s.val) : (b.xor T p (BB.ofSq s) c).Shows i m where
  piece q := by rw [xor_pbit, decide_eq_false hi, Bool.false_and, Bool.xor_false]; exact h.piece q
  color d := by rw [xor_cbit, decide_eq_false hi, Bool.false_and, Bool.xor_false]; exact h.color d
  comb := by rw [xor_combbit, decide_eq_false hi, Bool.xor_false]; exact h.comb

/-- on square `s` itself the toggle flips the bit of `p`, the bit of `c` and the `combined` bit -/
theorem Board.Shows.xor_at {b : Board} {s : Sq} {m m' : Option (Piece × Color)} (h : b.Shows s.val m) (T : Tables)
    {p : Piece} {c : Color} (hp : ∀ q, (m.any (·.1 == q) ^^ (p == q)) = m'.any (·.1 == q))
    (hc : ∀ d, (m.any (·.2 == d) ^^ (c == d)) = m'.any (·.2 == d)) (hs : (!m.isSome) = m'.isSome) :
    (b.xor T p (BB.ofSq s) c).Shows s.val m' where
  piece q := by rw [xor_pbit, decide_eq_true rfl, Bool.true_and, h.piece]; exact hp q
  color d := by rw [xor_cbit, decide_eq_true rfl, Bool.true_and, h.color]; exact hc d
  comb := by rw [xor_combbit, decide_eq_true rfl, Bool.xor_true, h.comb]; exact hs

theorem Board.Shows.xor_add {b : Board} {s : Sq} (h : b.Shows s.val none) (T : Tables) (p : Piece) (c : Color) :
    (b.xor T p (BB.ofSq s) c).Shows s.val (some (p, c)) :=
  h.xor_at T (fun _ => Bool.false_xor _) (fun _ => Bool.false_xor _) rfl

theorem Board.Shows.xor_remove {b : Board} {s : Sq} {p : Piece} {c : Color} (h : b.Shows s.val (some (p, c)))
    (T : Tables) : (b.xor T p (BB.ofSq s) c).Shows s.val none :=
  h.xor_at T (fun _ => Bool.xor_self _) (fun _ => Bool.xor_self _) rfl

theorem Struct.xor_shows {b : Board} (h : Struct b) {T : Tables} {s : Sq} {p : Piece} {c : Color}
    {m' : Option (Piece × Color)} (hs : (b.xor T p (BB.ofSq s) c).Shows s.val m') :
    Struct (b.xor T p (BB.ofSq s) c) ∧
    ∀ t, (b.xor T p (BB.ofSq s) c).content t = if t = s then m' else b.content t := by
  constructor
  · refine Struct.of_shows fun i => ?_
    by_cases hi : i = s.val
    · exact ⟨m', hi ▸ hs⟩
    · exact (h.shows i).imp fun m hm => hm.xor_off T p c hi
  · intro t
    by_cases ht : t = s
    · rw [if_pos ht, ht, hs.content]
    · rw [if_neg ht, ((h.shows_content t).xor_off T p c (fun hh => ht (Fin.ext hh))).content]

/-- a consistent board that differs from a `Core` board in the content of `s` only, and whose raw hash differs
by the two keys of `s`, is `Core` -/
theorem Core.of_update {T : Tables} {b b' : Board} (h : Core T b) (hs : Struct b') (s : Sq)
    (ho : ∀ t, t ≠ s → b'.content t = b.content t) (hh : b'.hash = b.hash ^^^ keyAt T b s ^^^ keyAt T b' s) :
    Core T b' := by
  refine ⟨hs, ?_⟩
  rw [hh, h.hash]
  exact (foldl_xor_update (keyAt T b) (keyAt T b') allSq 0#64 s allSq_nodup (mem_allSq s)
    fun t ht => by rw [keyAt_content, keyAt_content, ho t ht]).symm

theorem Core.remove {T : Tables} {b : Board} (h : Core T b) {s : Sq} {p : Piece} {c : Color}
    (hs : b.content s = some (p, c)) :
    Core T (b.xor T p (BB.ofSq s) c) ∧
    ∀ t, (b.xor T p (BB.ofSq s) c).content t = if t = s then none else b.content t := by
  obtain ⟨hs', hc⟩ := h.toStruct.xor_shows ((hs ▸ h.toStruct.shows_content s).xor_remove T)
  refine ⟨h.of_update hs' s (fun t ht => by rw [hc, if_neg ht]) ?_, hc⟩
  rw [xor_hash, BB.toSq_ofSq, keyAt_content, keyAt_content, hc, if_pos rfl, hs]
  simp only [BitVec.xor_zero]

theorem Core.add {T : Tables} {b : Board} (h : Core T b) {s : Sq} (p : Piece) (c : Color)
    (hs : b.content s = none) :
    Core T (b.xor T p (BB.ofSq s) c) ∧
    ∀ t, (b.xor T p (BB.ofSq s) c).content t = if t = s then some (p, c) else b.content t := by
  obtain ⟨hs', hc⟩ := h.toStruct.xor_shows ((hs ▸ h.toStruct.shows_content s).xor_add T p c)
  refine ⟨h.of_update hs' s (fun t ht => by rw [hc, if_neg ht]) ?_, hc⟩
  rw [xor_hash, BB.toSq_ofSq, keyAt_content, keyAt_content, hc, if_pos rfl, hs]
  simp only [BitVec.xor_zero]

end Chess
