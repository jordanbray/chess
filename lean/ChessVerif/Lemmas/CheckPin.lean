import ChessVerif.Lemmas.PseudoBits1
import ChessVerif.Lemmas.PinCheck3
import ChessVerif.Lemmas.Sane
/-
C03: `Board.updatePinInfo` (the model of `update_pin_info`) computes exactly the checkers and the
absolutely pinned men of the specification (`checkerSq`, `pinnedSq` of `Spec/Rules.lean`).

The slider scan xors one board per scanned square into `pinned` and one into `checkers` (`scan_eq`).  A
bit of such an xor is "some scanned square contributes it" as soon as no two squares contribute the same
bit (`xorAll_bit`); the contributions are then read on the abstract position.
-/
namespace Chess
namespace CheckPin
open PinCheck PseudoBits

/-! ### the king square -/

theorem kingSquare_bit {b : Board} {c : Color} (hk : (b.kings &&& b.colorCombined c).popcnt = 1) (s : Sq) :
    (b.kings &&& b.colorCombined c).getLsbD s.val = true ↔ s = b.kingSquare c := by
  rw [bit_of_popcnt_one hk, decide_eq_true_eq]
  unfold Board.kingSquare
  exact ⟨fun h => Fin.ext h, fun h => congrArg Fin.val h⟩

theorem kingAt {b : Board} (hs : Struct b) {c : Color} (hk : (b.kings &&& b.colorCombined c).popcnt = 1) :
    KingAt b.abs c (b.kingSquare c) := by
  intro s
  rw [abs_board, hs.content_some_iff, ← kingSquare_bit hk, BitVec.getLsbD_and, Bool.and_eq_true]
  exact Iff.rfl

theorem content_kingSquare {b : Board} (hs : Struct b) {c : Color}
    (hk : (b.kings &&& b.colorCombined c).popcnt = 1) : b.content (b.kingSquare c) = some (.king, c) := by
  have := (kingAt hs hk (b.kingSquare c)).mpr rfl
  rwa [abs_board] at this

theorem kingSq?_abs {b : Board} (hs : Struct b) {c : Color} (hk : (b.kings &&& b.colorCombined c).popcnt = 1) :
    kingSq? b.abs c = some (b.kingSquare c) := kingSq?_of_KingAt (kingAt hs hk)

/-! ### the bits of a square from its content -/

theorem bits_of_content_some {b : Board} (hs : Struct b) {x : Sq} {pc : Piece} {c : Color}
    (h : b.content x = some (pc, c)) :
    (∀ q, b.pbit q x.val = decide (q = pc)) ∧ (∀ d, b.cbit d x.val = decide (d = c)) ∧
      b.combined.getLsbD x.val = true := by
  obtain ⟨hp, hc⟩ := (hs.content_some_iff x pc c).mp h
  refine ⟨?_, ?_, (hs.comb_piece x.val).mpr ⟨pc, hp⟩⟩
  · intro q
    by_cases hq : q = pc
    · subst hq; rw [hp, decide_eq_true rfl]
    · rw [hs.piece_disj x.val pc q (Ne.symm hq) hp, decide_eq_false hq]
  · intro d
    rw [Bool.eq_iff_iff, decide_eq_true_eq, ← colorAt_iff_cbit hs, abs_colorAt, h]
    exact ⟨fun e => (Option.some.inj e).symm, fun e => e ▸ rfl⟩

theorem bits_of_content_none {b : Board} (hs : Struct b) {x : Sq} (h : b.content x = none) :
    (∀ q, b.pbit q x.val = false) ∧ (∀ d, b.cbit d x.val = false) ∧ b.combined.getLsbD x.val = false := by
  have hc := (hs.content_none_iff x).mp h
  obtain ⟨h1, h2, h3⟩ := hs.empty_bits x.val hc
  refine ⟨h1, ?_, hc⟩
  intro d; cases d
  · exact h2
  · exact h3

/-! ### the slider scan as two xors -/

theorem scan_nil (T : Tables) (comb : BB) (k : Sq) (acc : BB × BB) :
    Board.sliderScan T comb k [] acc = acc := by
  unfold Board.sliderScan; rfl

theorem scan_cons (T : Tables) (comb : BB) (k s : Sq) (rest : List Sq) (P C : BB) :
    Board.sliderScan T comb k (s :: rest) (P, C) =
      if T.between s k &&& comb = 0#64 then Board.sliderScan T comb k rest (P, C ^^^ BB.ofSq s)
      else if (T.between s k &&& comb).popcnt = 1 then
        Board.sliderScan T comb k rest (P ^^^ (T.between s k &&& comb), C)
      else Board.sliderScan T comb k rest (P, C) := by
  rw [Board.sliderScan]

/-- what scanning `s` xors into `pinned` … -/
def scanPin (T : Tables) (comb : BB) (k s : Sq) : BB :=
  if (T.between s k &&& comb).popcnt = 1 then T.between s k &&& comb else 0#64

/-- … and into `checkers` -/
def scanChk (T : Tables) (comb : BB) (k s : Sq) : BB :=
  if T.between s k &&& comb = 0#64 then BB.ofSq s else 0#64

def xorAll : List BB → BB := List.foldr (· ^^^ ·) 0#64

theorem xorAll_cons (a : BB) (l : List BB) : xorAll (a :: l) = a ^^^ xorAll l := rfl

theorem scan_eq (T : Tables) (comb : BB) (k : Sq) : ∀ (l : List Sq) (P C : BB),
    Board.sliderScan T comb k l (P, C) =
      (P ^^^ xorAll (l.map (scanPin T comb k)), C ^^^ xorAll (l.map (scanChk T comb k))) := by
  intro l
  induction l with
  | nil => intro P C; rw [scan_nil]; simp [xorAll]
  | cons s rest ih =>
    intro P C
    rw [scan_cons, List.map_cons, List.map_cons, xorAll_cons, xorAll_cons, ← BitVec.xor_assoc,
      ← BitVec.xor_assoc, scanPin, scanChk]
    by_cases h0 : T.between s k &&& comb = 0#64
    · rw [if_pos h0, if_pos h0, ih, h0, ite_self, BitVec.xor_zero]
    · rw [if_neg h0, if_neg h0, BitVec.xor_zero]
      by_cases h1 : (T.between s k &&& comb).popcnt = 1
      · rw [if_pos h1, if_pos h1, ih]
      · rw [if_neg h1, if_neg h1, ih, BitVec.xor_zero]

theorem scan_fst (T : Tables) (comb : BB) (k : Sq) (l : List Sq) (P C : BB) :
    (Board.sliderScan T comb k l (P, C)).1 = P ^^^ xorAll (l.map (scanPin T comb k)) := by rw [scan_eq]

theorem scan_snd (T : Tables) (comb : BB) (k : Sq) (l : List Sq) (P C : BB) :
    (Board.sliderScan T comb k l (P, C)).2 = C ^^^ xorAll (l.map (scanChk T comb k)) := by rw [scan_eq]

theorem xorAll_bit {α : Type} (f : α → BB) (i : Nat) : ∀ l : List α,
    l.Pairwise (fun s s' => ¬ ((f s).getLsbD i = true ∧ (f s').getLsbD i = true)) →
    (xorAll (l.map f)).getLsbD i = l.any fun s => (f s).getLsbD i
  | [], _ => BitVec.getLsbD_zero
  | s :: rest, hpw => by
    rw [List.pairwise_cons] at hpw
    rw [List.map_cons, xorAll_cons, BitVec.getLsbD_xor, List.any_cons, xorAll_bit f i rest hpw.2]
    cases hs : (f s).getLsbD i with
    | false => rw [Bool.false_xor, Bool.false_or]
    | true =>
      have : (rest.any fun s => (f s).getLsbD i) = false :=
        List.any_eq_false.mpr fun s' hs' hp => hpw.1 s' hs' ⟨hs, hp⟩
      rw [this]; rfl

theorem scanChk_bit (T : Tables) (comb : BB) (k s x : Sq) :
    (scanChk T comb k s).getLsbD x.val = true ↔ x = s ∧ T.between s k &&& comb = 0#64 := by
  unfold scanChk
  by_cases h0 : T.between s k &&& comb = 0#64
  · rw [if_pos h0, BB.getLsbD_ofSq, decide_eq_true_eq, ← Fin.ext_iff]; exact (and_iff_left h0).symm
  · rw [if_neg h0, BitVec.getLsbD_zero]; exact ⟨nofun, fun h => absurd h.2 h0⟩

theorem scanPin_bit_raw (T : Tables) (comb : BB) (k s y : Sq) :
    (scanPin T comb k s).getLsbD y.val = true ↔
      (T.between s k &&& comb).popcnt = 1 ∧ (T.between s k &&& comb).getLsbD y.val = true := by
  unfold scanPin
  by_cases h1 : (T.between s k &&& comb).popcnt = 1
  · rw [if_pos h1]; exact (and_iff_right h1).symm
  · rw [if_neg h1, BitVec.getLsbD_zero]; exact ⟨nofun, fun h => absurd h.1 h1⟩

/-! ### `update_pin_info` unfolded -/

/-- the enemy bishops/rooks/queens on a line of their kind through `k` (the squares the scan visits) -/
def pinnersAt (T : Tables) (b : Board) (k : Sq) : BB :=
  b.colorCombined b.stm.other &&&
    ((T.bishopRays k &&& (b.bishops ||| b.queens)) ||| (T.rookRays k &&& (b.rooks ||| b.queens)))

theorem updatePinInfo_pinned (T : Tables) (b : Board) :
    (b.updatePinInfo T).pinned =
      xorAll ((pinnersAt T b (b.kingSquare b.stm)).toList.map (scanPin T b.combined (b.kingSquare b.stm))) := by
  rw [show (b.updatePinInfo T).pinned = (Board.sliderScan T b.combined (b.kingSquare b.stm)
    (pinnersAt T b (b.kingSquare b.stm)).toList (0#64, 0#64)).1 from rfl, scan_fst, BitVec.zero_xor]

/-- the enemy knights and pawns attacking `k`: the two leaper terms of `update_pin_info` -/
def leapers (T : Tables) (b : Board) (k : Sq) : BB :=
  (T.knight k &&& b.colorCombined b.stm.other &&& b.knights) ^^^
    (T.pawnAttacks b.stm k &&& (b.colorCombined b.stm.other &&& b.pawns))

theorem updatePinInfo_checkers (T : Tables) (b : Board) :
    (b.updatePinInfo T).checkers =
      xorAll ((pinnersAt T b (b.kingSquare b.stm)).toList.map (scanChk T b.combined (b.kingSquare b.stm))) ^^^
      leapers T b (b.kingSquare b.stm) := by
  rw [show (b.updatePinInfo T).checkers = (Board.sliderScan T b.combined (b.kingSquare b.stm)
      (pinnersAt T b (b.kingSquare b.stm)).toList (0#64, 0#64)).2 ^^^
    (T.knight (b.kingSquare b.stm) &&& b.colorCombined b.stm.other &&& b.knights) ^^^
    (T.pawnAttacks b.stm (b.kingSquare b.stm) &&& (b.colorCombined b.stm.other &&& b.pawns)) from rfl,
    scan_snd, BitVec.zero_xor, BitVec.xor_assoc]
  rfl

theorem updatePinInfo_abs (T : Tables) (b : Board) : (b.updatePinInfo T).abs = b.abs := by
  rw [updatePinInfo_with]; rfl

theorem pinners_bit {T : Tables} (hT : TablesOK T) {b : Board} (hs : Struct b) (k x : Sq) :
    (pinnersAt T b k).getLsbD x.val = true ↔
      b.abs.colorAt x = some b.stm.other ∧ sliderAligned (b.abs.board x) x k = true := by
  unfold pinnersAt
  rw [BitVec.getLsbD_and, Bool.and_eq_true, ← colorAt_iff_cbit hs]
  refine and_congr_right fun hc => ?_
  obtain ⟨pc, hpc⟩ := (colorAt_iff _ _ _).mp hc
  obtain ⟨hp, _, _⟩ := bits_of_content_some hs hpc
  rw [hpc, BitVec.getLsbD_or, BitVec.getLsbD_and, BitVec.getLsbD_and, BitVec.getLsbD_or, BitVec.getLsbD_or,
    hT.bishopRays, hT.rookRays, mem_bishopRays, mem_rookRays, aligned_bishop_symm k x, aligned_rook_symm k x,
    show b.bishops.getLsbD x.val = _ from hp .bishop, show b.rooks.getLsbD x.val = _ from hp .rook,
    show b.queens.getLsbD x.val = _ from hp .queen]
  cases pc <;> simp only [sliderAligned, aligned_allDirs, reduceCtorEq, decide_true, decide_false, Bool.or_false,
    Bool.false_or, Bool.and_false, Bool.and_true, Bool.or_true, Bool.or_comm]

/-! ### the three kinds of checkers -/

theorem sliderCheck_iff {T : Tables} (hT : TablesOK T) {b : Board} (hs : Struct b) (k x : Sq) :
    ((pinnersAt T b k).getLsbD x.val && decide (T.between x k &&& b.combined = 0#64)) = true ↔
      b.abs.colorAt x = some b.stm.other ∧ sliderAligned (b.abs.board x) x k = true ∧
        ∀ z, strictlyBetween x z k = true → b.abs.empty z = true := by
  rw [Bool.and_eq_true, pinners_bit hT hs, decide_eq_true_eq, hT.between, between_and_eq_zero_iff, and_assoc]
  exact and_congr_right fun _ => and_congr_right fun _ => forall_congr' fun z => imp_congr_right fun _ =>
    (empty_iff_combined hs z).symm

/-- a table bit that is the leaper attack of a man `(pc, c)`, together with the two bits of that man -/
theorem leaper_iff {b : Board} (hs : Struct b) {x k : Sq} {pc : Piece} {c : Color} {t : Bool}
    (ht : t = leaperAtt (some (pc, c)) x k) :
    (t = true ∧ b.pbit pc x.val = true ∧ b.cbit c x.val = true) ↔
      b.content x = some (pc, c) ∧ leaperAtt (b.content x) x k = true := by
  rw [← hs.content_some_iff, and_comm, ht]
  exact and_congr_right fun h => by rw [h]

theorem knightCheck_iff {T : Tables} (hT : TablesOK T) {b : Board} (hs : Struct b) (k x : Sq) :
    (T.knight k &&& b.colorCombined b.stm.other &&& b.knights).getLsbD x.val = true ↔
      b.content x = some (.knight, b.stm.other) ∧ leaperAtt (b.content x) x k = true := by
  rw [BitVec.getLsbD_and, BitVec.getLsbD_and, Bool.and_eq_true, Bool.and_eq_true, hT.knight, mem_knight_symm,
    and_assoc, and_comm (b := b.knights.getLsbD x.val = true)]
  exact leaper_iff hs (pc := .knight) (mem_knight x k)

theorem pawnCheck_iff {T : Tables} (hT : TablesOK T) {b : Board} (hs : Struct b) (k x : Sq) :
    (T.pawnAttacks b.stm k &&& (b.colorCombined b.stm.other &&& b.pawns)).getLsbD x.val = true ↔
      b.content x = some (.pawn, b.stm.other) ∧ leaperAtt (b.content x) x k = true := by
  rw [BitVec.getLsbD_and, BitVec.getLsbD_and, Bool.and_eq_true, Bool.and_eq_true, hT.pawnAttacks,
    mem_pawnAttacks_symm, and_comm (b := b.pawns.getLsbD x.val = true)]
  exact leaper_iff hs (pc := .pawn) (mem_pawnAttacks _ x k)

/-! ### checkers: assembly -/

/-- the enemy king does not attack the mover's king (`is_sane` guarantees it, see
`SaneCheck.kingsApart_of_facts`); `update_pin_info` never reports a king as a checker, the specification's
`checkerSq` would -/
def KingsApart (b : Board) : Prop :=
  ∀ x, b.content x = some (.king, b.stm.other) → attacks b.abs x (b.kingSquare b.stm) = false

theorem xor3_eq_or : ∀ {a n p : Bool}, (a = true → n = false) → (a = true → p = false) →
    (n = true → p = false) → ((a ^^ n) ^^ p) = (a || n || p) := by decide

/-- bit `x` of the computed `checkers` as the three contributions -/
theorem checkers_bit (T : Tables) (b : Board) (x : Sq) :
    (b.updatePinInfo T).checkers.getLsbD x.val =
      ((((pinnersAt T b (b.kingSquare b.stm)).getLsbD x.val &&
          decide (T.between x (b.kingSquare b.stm) &&& b.combined = 0#64)) ^^
        (T.knight (b.kingSquare b.stm) &&& b.colorCombined b.stm.other &&& b.knights).getLsbD x.val) ^^
        (T.pawnAttacks b.stm (b.kingSquare b.stm) &&& (b.colorCombined b.stm.other &&& b.pawns)).getLsbD x.val) := by
  rw [updatePinInfo_checkers, leapers, ← BitVec.xor_assoc, BitVec.getLsbD_xor, BitVec.getLsbD_xor, xorAll_bit]
  · congr 2
    rw [Bool.eq_iff_iff, List.any_eq_true, Bool.and_eq_true, decide_eq_true_eq, ← BB.mem_toList]
    constructor
    · rintro ⟨s, hm, hs⟩
      obtain ⟨rfl, h0⟩ := (scanChk_bit _ _ _ _ _).mp hs
      exact ⟨hm, h0⟩
    · rintro ⟨hm, h0⟩
      exact ⟨x, hm, (scanChk_bit _ _ _ _ _).mpr ⟨rfl, h0⟩⟩
  · exact (BB.toList_nodup _).imp fun hne h =>
      hne (((scanChk_bit _ _ _ _ _).mp h.1).1.symm.trans ((scanChk_bit _ _ _ _ _).mp h.2).1)

theorem checkers_exact {T : Tables} (hT : TablesOK T) {b : Board} (hs : Struct b)
    (hk : (b.kings &&& b.colorCombined b.stm).popcnt = 1) (hkk : KingsApart b) (x : Sq) :
    (b.updatePinInfo T).checkers.getLsbD x.val = checkerSq b.abs x := by
  have hA := sliderCheck_iff hT hs (b.kingSquare b.stm) x
  have hN := knightCheck_iff hT hs (b.kingSquare b.stm) x
  have hP := pawnCheck_iff hT hs (b.kingSquare b.stm) x
  rw [checkers_bit, Bool.eq_iff_iff, checkerSq_iff (kingSq?_abs hs hk), abs_stm, xor3_eq_or, Bool.or_eq_true,
    Bool.or_eq_true, hA, hN, hP, abs_board]
  · constructor
    · rintro ((⟨h1, h2, h3⟩ | ⟨h1, h2⟩) | ⟨h1, h2⟩)
      · exact ⟨h1, Or.inl ⟨h2, h3⟩⟩
      · exact ⟨colorAt_of_board (p := b.abs) h1, Or.inr h2⟩
      · exact ⟨colorAt_of_board (p := b.abs) h1, Or.inr h2⟩
    · rintro ⟨h1, ⟨h2, h3⟩ | h2⟩
      · exact Or.inl (Or.inl ⟨h1, h2, h3⟩)
      · obtain ⟨pc, hpc⟩ := (colorAt_iff _ _ _).mp h1
        rw [abs_board] at hpc
        cases pc with
        | knight => exact Or.inl (Or.inr ⟨hpc, h2⟩)
        | pawn => exact Or.inr ⟨hpc, h2⟩
        | king =>
          -- the one case the code does not look at
          have := hkk x hpc
          rw [attacks_eq, abs_board, h2, Bool.or_true] at this
          cases this
        | bishop | rook | queen => rw [hpc] at h2; cases h2
  · exact fun ha => Bool.eq_false_iff.mpr fun hn => slider_leaper_excl (hA.mp ha).2.1 (hN.mp hn).2
  · exact fun ha => Bool.eq_false_iff.mpr fun hp => slider_leaper_excl (hA.mp ha).2.1 (hP.mp hp).2
  · exact fun hn => Bool.eq_false_iff.mpr fun hp => by
      have := (hN.mp hn).1.symm.trans (hP.mp hp).1
      cases this

/-! ### pinned men -/

theorem scanPin_bit {T : Tables} (hT : TablesOK T) {b : Board} (hs : Struct b) (k y s : Sq) :
    (scanPin T b.combined k s).getLsbD y.val = true ↔
      strictlyBetween s y k = true ∧ b.abs.empty y = false ∧
        ∀ z, strictlyBetween s z k = true → z = y ∨ b.abs.empty z = true := by
  have hbit : ∀ z : Sq, (T.between s k &&& b.combined).getLsbD z.val = true ↔
      strictlyBetween s z k = true ∧ b.abs.empty z = false := by
    intro z
    rw [BitVec.getLsbD_and, hT.between, mem_between, Bool.and_eq_true, empty_false_iff_combined hs]
  rw [scanPin_bit_raw, popcnt_one_iff_bits]
  simp only [hbit]
  constructor
  · intro h
    obtain ⟨h1, h2⟩ := (h y).mpr rfl
    refine ⟨h1, h2, fun z hz => ?_⟩
    cases he : b.abs.empty z with
    | true => exact Or.inr rfl
    | false => exact Or.inl ((h z).mp ⟨hz, he⟩)
  · rintro ⟨h1, h2, h3⟩ z
    constructor
    · rintro ⟨hz, he⟩
      rcases h3 z hz with e | e
      · exact e
      · rw [he] at e; cases e
    · rintro rfl
      exact ⟨h1, h2⟩

/-- two different occupied squares cannot both have `y` as the only man between them and `k`:
they lie on the same ray from `k` through `y`, so the nearer one is between the farther one and `k` -/
theorem pin_unique {p : Pos} {k y s s' : Sq} (hne : s ≠ s') (ho : p.empty s = false) (ho' : p.empty s' = false)
    (h1 : strictlyBetween s y k = true) (h1z : ∀ z, strictlyBetween s z k = true → z = y ∨ p.empty z = true)
    (h2 : strictlyBetween s' y k = true) (h2z : ∀ z, strictlyBetween s' z k = true → z = y ∨ p.empty z = true) :
    False := by
  rcases same_ray h1 h2 with e | hb | hb
  · exact hne e
  · rcases h2z s hb with e | e
    · exact strictlyBetween_ne_left h1 e.symm
    · rw [ho] at e; cases e
  · rcases h1z s' hb with e | e
    · exact strictlyBetween_ne_left h2 e.symm
    · rw [ho'] at e; cases e

/-- bit `y` of the computed `pinned`: some scanned square has `y` as the only man between it and the king -/
theorem pinned_bit {T : Tables} (hT : TablesOK T) {b : Board} (hs : Struct b) (y : Sq) :
    (b.updatePinInfo T).pinned.getLsbD y.val =
      (pinnersAt T b (b.kingSquare b.stm)).toList.any fun s =>
        (scanPin T b.combined (b.kingSquare b.stm) s).getLsbD y.val := by
  rw [updatePinInfo_pinned, xorAll_bit]
  refine List.Pairwise.imp_of_mem ?_ (BB.toList_nodup _)
  intro s s' hm hm' hne
  rintro ⟨hp, hp'⟩
  rw [BB.mem_toList, pinners_bit hT hs] at hm hm'
  obtain ⟨h1, _, h1z⟩ := (scanPin_bit hT hs _ _ _).mp hp
  obtain ⟨h2, _, h2z⟩ := (scanPin_bit hT hs _ _ _).mp hp'
  exact pin_unique hne (not_empty_of_colorAt hm.1) (not_empty_of_colorAt hm'.1) h1 h1z h2 h2z

theorem pinned_exact {T : Tables} (hT : TablesOK T) {b : Board} (hs : Struct b)
    (hk : (b.kings &&& b.colorCombined b.stm).popcnt = 1) (y : Sq) :
    ((b.updatePinInfo T).pinned &&& b.colorCombined b.stm).getLsbD y.val = pinnedSq b.abs y := by
  rw [BitVec.getLsbD_and, pinned_bit hT hs, Bool.eq_iff_iff, pinnedSq_iff (kingSq?_abs hs hk), abs_stm,
    Bool.and_eq_true, List.any_eq_true, colorAt_iff_cbit hs]
  constructor
  · rintro ⟨⟨s, hm, hp⟩, hc⟩
    rw [BB.mem_toList, pinners_bit hT hs] at hm
    obtain ⟨h1, _, h1z⟩ := (scanPin_bit hT hs _ _ _).mp hp
    exact ⟨hc, strictlyBetween_ne_right h1, s, hm.1, h1, h1z, hm.2⟩
  · rintro ⟨hc, _, x, hx, h1, h1z, hal⟩
    refine ⟨⟨x, ?_, ?_⟩, hc⟩
    · rw [BB.mem_toList, pinners_bit hT hs]; exact ⟨hx, hal⟩
    · exact (scanPin_bit hT hs _ _ _).mpr
        ⟨h1, not_empty_of_colorAt ((colorAt_iff_cbit hs y b.stm).mpr hc), h1z⟩

end CheckPin

/-! ### cached check/pin fields are the from-scratch ones -/

def Board.PinOK (T : Tables) (b : Board) : Prop := b.updatePinInfo T = b

open CheckPin in
/-- on a board whose cached fields are the from-scratch ones, `checkers()` is exact -/
theorem Board.PinOK.checkers_exact {T : Tables} {b : Board} (hp : b.PinOK T) (hT : TablesOK T) (hs : Struct b)
    (hk : (b.kings &&& b.colorCombined b.stm).popcnt = 1) (hkk : KingsApart b) (x : Sq) :
    b.checkers.getLsbD x.val = checkerSq b.abs x := by
  have := CheckPin.checkers_exact hT hs hk hkk x
  rwa [hp] at this

/-- … and `pinned()` restricted to the mover's men is exact -/
theorem Board.PinOK.pinned_exact {T : Tables} {b : Board} (hp : b.PinOK T) (hT : TablesOK T) (hs : Struct b)
    (hk : (b.kings &&& b.colorCombined b.stm).popcnt = 1) (y : Sq) :
    (b.pinned &&& b.colorCombined b.stm).getLsbD y.val = pinnedSq b.abs y := by
  have := CheckPin.pinned_exact hT hs hk y
  rwa [hp] at this

theorem Board.PinOK.updatePinInfo (T : Tables) (b : Board) : (b.updatePinInfo T).PinOK T :=
  updatePinInfo_idem T b

theorem Board.PinOK.tryFrom {T : Tables} {bd : Builder} {b : Board} (h : Board.tryFrom T bd = some b) :
    b.PinOK T := (tryFrom_spec T bd b h).2.2.2.2.2.2.1

theorem Board.PinOK.nullMove {T : Tables} {b b' : Board} (h : b.nullMove T = some b') : b'.PinOK T :=
  (nullMove_spec T b b' h).2.2.2.2.2

end Chess
