import ChessVerif.Lemmas.GeomBridge2
/-
Geometry, part 3: the arithmetic `strictlyBetween` is order of positions on a common line
(`At_of_sb`, `sb_of_At_lt`), by coordinate arithmetic (no 64³ enumeration); the order facts follow.
-/
namespace Chess
open PinCheck

/-! ### integer arithmetic -/

/-- a non-zero vector along a rank, file or diagonal is a positive multiple of a direction -/
theorem exists_dir {P Q : Int} (h : P = 0 ∨ Q = 0 ∨ P.natAbs = Q.natAbs) (h0 : ¬ (P = 0 ∧ Q = 0)) :
    ∃ (u : Dir) (n : Int), 0 < n ∧ P = n * u.df ∧ Q = n * u.dr := by
  rcases Int.lt_trichotomy P 0 with hP | hP | hP <;> rcases Int.lt_trichotomy Q 0 with hQ | hQ | hQ
  · exact ⟨.sw, -P, by simp only [Dir.df, Dir.dr]; omega⟩
  · exact ⟨.w, -P, by simp only [Dir.df, Dir.dr]; omega⟩
  · exact ⟨.nw, -P, by simp only [Dir.df, Dir.dr]; omega⟩
  · exact ⟨.s, -Q, by simp only [Dir.df, Dir.dr]; omega⟩
  · exact absurd ⟨hP, hQ⟩ h0
  · exact ⟨.n, Q, by simp only [Dir.df, Dir.dr]; omega⟩
  · exact ⟨.se, P, by simp only [Dir.df, Dir.dr]; omega⟩
  · exact ⟨.e, P, by simp only [Dir.df, Dir.dr]; omega⟩
  · exact ⟨.ne, P, by simp only [Dir.df, Dir.dr]; omega⟩

/-- a vector with zero cross product against a multiple of a direction is a multiple of it too -/
theorem collinear_dir {u : Dir} {n p q : Int} (hn : n ≠ 0) (h : p * (n * u.dr) = q * (n * u.df)) :
    ∃ i : Int, p = i * u.df ∧ q = i * u.dr := by
  rw [Int.mul_left_comm, Int.mul_left_comm q] at h
  have h' := Int.eq_of_mul_eq_mul_left hn h
  cases u <;> simp only [Dir.df, Dir.dr] at h' ⊢
  · exact ⟨q, by omega, by omega⟩
  · exact ⟨p, by omega, by omega⟩
  · exact ⟨p, by omega, by omega⟩
  · exact ⟨p, by omega, by omega⟩
  · exact ⟨-q, by omega, by omega⟩
  · exact ⟨-p, by omega, by omega⟩
  · exact ⟨-p, by omega, by omega⟩
  · exact ⟨q, by omega, by omega⟩

private theorem mul_self_nonneg' (v : Int) : 0 ≤ v * v := by
  rw [← Int.natAbs_mul_self (a := v)]; omega

theorem sbCore_iff (P Q p q : Int) : Sym.sbCore P Q p q = true ↔
    (P = 0 ∨ Q = 0 ∨ P.natAbs = Q.natAbs) ∧ p * Q = q * P ∧ 0 < p * P + q * Q ∧
      p * p + q * q < P * P + Q * Q := by
  unfold Sym.sbCore
  simp only [Bool.and_eq_true, Bool.or_eq_true, beq_iff_eq, decide_eq_true_eq, and_assoc, or_assoc]

/-- after `cases u` the two quadratic conditions of `Sym.sbCore` on multiples `n`, `t` of `u` are (once or
twice) `0 < t * n` and `t * t < n * n`; `omega` takes the products as atoms -/
private theorem quad_dir (u : Dir) (n t : Int) :
    (0 < t * u.df * (n * u.df) + t * u.dr * (n * u.dr) ∧
      t * u.df * (t * u.df) + t * u.dr * (t * u.dr) < n * u.df * (n * u.df) + n * u.dr * (n * u.dr)) ↔
    (0 < t * n ∧ t * t < n * n) := by
  cases u <;>
    simp only [Dir.df, Dir.dr, Int.mul_zero, Int.mul_one, Int.mul_neg, Int.neg_mul, Int.neg_neg,
      Int.add_zero, Int.zero_add] <;>
    omega

/-- direction form ⇒ arithmetic form -/
theorem sbCore_of_dir (u : Dir) {n t : Int} (ht : 0 < t) (htn : t < n) :
    Sym.sbCore (n * u.df) (n * u.dr) (t * u.df) (t * u.dr) = true := by
  rw [sbCore_iff, quad_dir]
  refine ⟨?_, ?_, Int.mul_pos ht (by omega), Int.mul_self_lt_mul_self (by omega) htn⟩
  · cases u <;> simp [Dir.df, Dir.dr]
  · rw [Int.mul_left_comm, Int.mul_left_comm (t * u.dr), Int.mul_assoc, Int.mul_assoc,
      Int.mul_comm u.df]

/-- arithmetic form ⇒ direction form -/
theorem dir_of_sbCore {P Q p q : Int} (h : Sym.sbCore P Q p q = true) :
    ∃ (u : Dir) (n t : Int), 0 < t ∧ t < n ∧ P = n * u.df ∧ Q = n * u.dr ∧
      p = t * u.df ∧ q = t * u.dr := by
  obtain ⟨h1, h2, h34⟩ := (sbCore_iff P Q p q).mp h
  obtain ⟨u, n, hn, rfl, rfl⟩ := exists_dir h1 fun ⟨hP, hQ⟩ => by
    rw [hP, hQ, Int.mul_zero, Int.mul_zero] at h34; exact absurd h34.1 (by decide)
  obtain ⟨t, rfl, rfl⟩ := collinear_dir (Int.ne_of_gt hn) h2
  obtain ⟨h3, h4⟩ := (quad_dir u n t).mp h34
  exact ⟨u, n, t, Int.pos_of_mul_pos_left h3 hn, Int.lt_of_not_ge fun hle =>
    Int.not_lt_of_ge (Int.mul_self_le_mul_self (Int.le_of_lt hn) hle) h4, rfl, rfl, rfl, rfl⟩

/-! ### betweenness is order of positions -/

namespace PinCheck

theorem At_of_sb {a z b : Sq} (h : strictlyBetween a z b = true) :
    ∃ (u : Dir) (n t : Int), 0 < t ∧ t < n ∧ At a u n b ∧ At a u t z := by
  obtain ⟨u, n, t, ht, htn, hP, hQ, hp, hq⟩ := dir_of_sbCore h
  exact ⟨u, n, t, ht, htn, ⟨by omega, by omega⟩, ⟨by omega, by omega⟩⟩

theorem sb_of_At_lt {o : Sq} {u : Dir} {i j l : Int} {a z b : Sq} (ha : At o u i a) (hz : At o u j z)
    (hb : At o u l b) (h1 : i < j) (h2 : j < l) : strictlyBetween a z b = true := by
  obtain ⟨z1, z2⟩ := ha.shift hz
  obtain ⟨b1, b2⟩ := ha.shift hb
  rw [Sym.strictlyBetween_eq, show b.file - a.file = (l - i) * u.df by omega,
    show b.rank - a.rank = (l - i) * u.dr by omega, show z.file - a.file = (j - i) * u.df by omega,
    show z.rank - a.rank = (j - i) * u.dr by omega]
  exact sbCore_of_dir u (by omega) (by omega)

theorem sb_of_At_gt {o : Sq} {u : Dir} {i j l : Int} {a z b : Sq} (ha : At o u i a) (hz : At o u j z)
    (hb : At o u l b) (h1 : j < i) (h2 : l < j) : strictlyBetween a z b = true :=
  sb_of_At_lt ha.opp hz.opp hb.opp (by omega) (by omega)

theorem At_of_sb_dir {a z b : Sq} {u : Dir} {n : Int} (hn : 0 < n) (hb : At a u n b)
    (h : strictlyBetween a z b = true) : ∃ t : Int, 0 < t ∧ t < n ∧ At a u t z := by
  obtain ⟨u', n', t, ht, htn, hb', hz⟩ := At_of_sb h
  obtain ⟨rfl, rfl⟩ := At.dir_unique hn (by omega) hb hb'
  exact ⟨t, ht, htn, hz⟩

end PinCheck

theorem strictlyBetween_iff (a x b : Sq) : strictlyBetween a x b = true ↔
    ∃ (u : Dir) (n t : Nat), onRay a u n b = true ∧ onRay a u t x = true ∧ t < n := by
  constructor
  · intro h
    obtain ⟨u, n, t, ht, htn, hb, hx⟩ := At_of_sb h
    exact ⟨u, n.toNat, t.toNat, onRay_of_At (by omega) hb, onRay_of_At ht hx, by omega⟩
  · rintro ⟨u, n, t, hb, hx, htn⟩
    rw [onRay_iff] at hb hx
    exact sb_of_At_lt (At.zero a u) hx.2 hb.2 (by omega) (by omega)

theorem strictlyBetween_eq_spec (a x b : Sq) : strictlyBetween a x b = strictlyBetweenSpec a x b := by
  rw [Bool.eq_iff_iff, strictlyBetween_iff]
  unfold strictlyBetweenSpec
  simp only [List.any_eq_true, List.mem_range, Bool.and_eq_true]
  constructor
  · rintro ⟨u, n, t, h1, h2, h3⟩
    have := onRay_le7 h1
    exact ⟨u, mem_allDirs u, n, by omega, t, h3, h1, h2⟩
  · rintro ⟨u, _, n, _, t, h3, h1, h2⟩
    exact ⟨u, n, t, h1, h2, h3⟩

/-! ### order facts -/

theorem strictlyBetween_symm' {a x b : Sq} (h : strictlyBetween a x b = true) :
    strictlyBetween b x a = true := by
  obtain ⟨u, n, t, ht, htn, hb, hx⟩ := At_of_sb h
  exact sb_of_At_gt hb hx (At.zero a u) htn ht

theorem strictlyBetween_symm (a x b : Sq) : strictlyBetween a x b = strictlyBetween b x a := by
  rw [Bool.eq_iff_iff]
  exact ⟨strictlyBetween_symm', strictlyBetween_symm'⟩

theorem strictlyBetween_irrefl_left (a b : Sq) : strictlyBetween a a b = false := by
  simp [strictlyBetween]

theorem strictlyBetween_ne_left {a x b : Sq} (h : strictlyBetween a x b = true) : x ≠ a := by
  rintro rfl
  rw [strictlyBetween_irrefl_left] at h
  cases h

theorem strictlyBetween_ne_right {a x b : Sq} (h : strictlyBetween a x b = true) : x ≠ b :=
  strictlyBetween_ne_left (strictlyBetween_symm' h)

theorem strictlyBetween_irrefl_right (a b : Sq) : strictlyBetween a b b = false := by
  cases h : strictlyBetween a b b with
  | false => rfl
  | true => exact absurd rfl (strictlyBetween_ne_right h)

theorem strictlyBetween_ends_ne {a x b : Sq} (h : strictlyBetween a x b = true) : a ≠ b := by
  obtain ⟨u, n, t, ht, htn, hb, _⟩ := At_of_sb h
  rintro rfl
  have := At.inj hb (At.zero a u)
  omega

/-- transitivity towards the near end -/
theorem strictlyBetween_trans {a x y b : Sq} (h1 : strictlyBetween a x b = true)
    (h2 : strictlyBetween a y x = true) : strictlyBetween a y b = true := by
  obtain ⟨u, n, t, ht, htn, hb, hx⟩ := At_of_sb h1
  obtain ⟨s, hs, hst, hy⟩ := At_of_sb_dir ht hx h2
  exact sb_of_At_lt (At.zero a u) hy hb hs (by omega)

theorem strictlyBetween_trichotomy {a x y b : Sq} (hx : strictlyBetween a x b = true)
    (hy : strictlyBetween a y b = true) :
    x = y ∨ strictlyBetween a x y = true ∨ strictlyBetween a y x = true := by
  obtain ⟨u, n, t, ht, htn, hb, hx⟩ := At_of_sb hx
  obtain ⟨s, hs, hsn, hy⟩ := At_of_sb_dir (by omega) hb hy
  rcases Int.lt_trichotomy t s with h | rfl | h
  · exact Or.inr (Or.inl (sb_of_At_lt (At.zero a u) hx hy ht h))
  · exact Or.inl (At.ext hx hy)
  · exact Or.inr (Or.inr (sb_of_At_lt (At.zero a u) hy hx hs h))

theorem strictlyBetween_split {a x b : Sq} (h : strictlyBetween a x b = true) (z : Sq) :
    strictlyBetween a z b = true ↔
      z = x ∨ strictlyBetween a z x = true ∨ strictlyBetween x z b = true := by
  obtain ⟨u, n, t, ht, htn, hb, hx⟩ := At_of_sb h
  have ha := At.zero a u
  constructor
  · intro hz
    obtain ⟨s, hs, hsn, hz⟩ := At_of_sb_dir (by omega) hb hz
    rcases Int.lt_trichotomy s t with h' | rfl | h'
    · exact Or.inr (Or.inl (sb_of_At_lt ha hz hx hs h'))
    · exact Or.inl (At.ext hz hx)
    · exact Or.inr (Or.inr (sb_of_At_lt hx hz hb h' hsn))
  · rintro (rfl | hz | hz)
    · exact h
    · obtain ⟨s, hs, hst, hz⟩ := At_of_sb_dir ht hx hz
      exact sb_of_At_lt ha hz hb hs (by omega)
    · obtain ⟨s, hs, hst, hz⟩ := At_of_sb_dir (by omega) (hx.shift hb) hz
      exact sb_of_At_lt ha (hx.add hz) hb (by omega) (by omega)

end Chess
