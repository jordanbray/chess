import ChessVerif.Lemmas.CheckPin
import ChessVerif.Lemmas.Closure
/-!
The two check-detection clauses of `is_sane` read on the rules (uses `CheckPin.checkers_exact`:
`update_pin_info` computes exactly the checkers of the specification).

* soundness: on a board that passes `is_sane`, the side not to move is not in check;
* completeness: on the candidate board of a valid position both clauses hold, hence every valid
  position is accepted (`tryFrom_complete`).
-/
namespace Chess
namespace SaneCheck
open CheckPin PinCheck

/-- the board with the side to move flipped (the board `is_sane` hands to `update_pin_info`) -/
def flip (b : Board) : Board := { b with stm := b.stm.other }

theorem flip_struct {b : Board} (hs : Struct b) : Struct (flip b) := ⟨hs.1, hs.2, hs.3, hs.4⟩

theorem inCheck_stm_eq_any (p : Pos) : inCheck p p.stm = allSq.any (checkerSq p) := by
  unfold inCheck checkerSq attackedBy
  cases kingSq? p p.stm with
  | none => exact (List.any_eq_false.mpr fun _ _ => Bool.false_ne_true).symm
  | some k => rfl

theorem not_attacks_of_not_inCheck {p : Pos} {c : Color} {k a : Sq} (hk : kingSq? p c = some k)
    (h : inCheck p c = false) (ha : p.colorAt a = some c.other) : attacks p a k = false := by
  unfold inCheck attackedBy at h
  rw [hk] at h
  have := List.any_eq_false.mp h a (mem_allSq a)
  rwa [ha, beq_self_eq_true, Bool.true_and, Bool.not_eq_true] at this

theorem attacks_king {p : Pos} {x k : Sq} {c : Color} (h : p.board x = some (.king, c)) :
    attacks p x k = (Geom.king x).getLsbD k.val := by
  rw [attacks_eq, h, mem_king_spec]
  simp [sliderAligned, leaperAtt]

theorem kingsApart_of_nonadjacent {b : Board} (hs : Struct b)
    (hkw : (b.kings &&& b.colorCombined .white).popcnt = 1) (hkb : (b.kings &&& b.colorCombined .black).popcnt = 1)
    (hna : (Geom.king (b.kingSquare .white)).getLsbD (b.kingSquare .black).val = false) (c : Color) (x : Sq)
    (hx : b.content x = some (.king, c.other)) : attacks b.abs x (b.kingSquare c) = false := by
  have hx' : b.abs.board x = some (.king, c.other) := hx
  rw [attacks_king hx']
  cases c with
  | white => rw [(kingAt hs hkb x).mp hx', mem_king_symm]; exact hna
  | black => rw [(kingAt hs hkw x).mp hx']; exact hna

theorem kings_bit_iff {b : Board} (hs : Struct b)
    (hkw : (b.kings &&& b.colorCombined .white).popcnt = 1) (hkb : (b.kings &&& b.colorCombined .black).popcnt = 1)
    (s : Sq) : b.kings.getLsbD s.val = true ↔ s = b.kingSquare .white ∨ s = b.kingSquare .black := by
  rw [← kingSquare_bit hkw, ← kingSquare_bit hkb, BitVec.getLsbD_and, BitVec.getLsbD_and, Bool.and_eq_true,
    Bool.and_eq_true, ← and_or_left]
  exact ⟨fun h => ⟨h, hs.color_of_comb s.val ((hs.comb_piece s.val).mpr ⟨.king, h⟩)⟩, And.left⟩

/-- the last clause of `is_sane`, geometrically -/
theorem kings_apart_clause_iff {T : Tables} (hT : TablesOK T) {b : Board} (hs : Struct b)
    (hkw : (b.kings &&& b.colorCombined .white).popcnt = 1) (hkb : (b.kings &&& b.colorCombined .black).popcnt = 1) :
    T.king (b.kingSquare .white) &&& b.kings = 0#64 ↔
      (Geom.king (b.kingSquare .white)).getLsbD (b.kingSquare .black).val = false := by
  rw [hT.king, BitVec.and_comm]
  constructor
  · exact fun h => and_eq_zero_bit h _ ((kings_bit_iff hs hkw hkb _).mpr (.inr rfl))
  · intro hna
    refine and_eq_zero_of_bits fun s hk => ?_
    rcases (kings_bit_iff hs hkw hkb s).mp hk with h | h
    · rw [h, mem_king]; simp
    · rw [h]; exact hna

/-- `checkers == EMPTY` means "not in check" once the cached `checkers` are the specification's checkers -/
theorem checkers_zero_iff_notInCheck {b : Board} (hC : ∀ x : Sq, b.checkers.getLsbD x.val = checkerSq b.abs x) :
    b.checkers = 0#64 ↔ inCheck b.abs b.stm = false := by
  rw [show inCheck b.abs b.stm = allSq.any (checkerSq b.abs) from inCheck_stm_eq_any b.abs,
    BB.eq_zero_iff, List.any_eq_false]
  constructor
  · intro h x _
    rw [← hC, h x]
    nofun
  · intro h z
    rw [hC]
    exact Bool.eq_false_iff.mpr (h z (mem_allSq z))

/-- the check detection of the code, run for the side not to move, finds no checker iff that side is not in
check under the rules; hypotheses: that side has one king and the other king does not attack it
(`update_pin_info` never looks at kings) -/
theorem flip_checkers_zero_iff {T : Tables} (hT : TablesOK T) {b : Board} (hs : Struct b)
    (hk : (b.kings &&& b.colorCombined b.stm.other).popcnt = 1) (hkk : KingsApart (flip b)) :
    (Board.updatePinInfo T (flip b)).checkers = 0#64 ↔ inCheck b.abs b.stm.other = false := by
  have h := checkers_zero_iff_notInCheck (b := (flip b).updatePinInfo T) (checkers_exact hT (flip_struct hs) hk hkk)
  rwa [Closure.inCheck_congr (show ((flip b).updatePinInfo T).abs.board = b.abs.board from rfl)] at h

/-- the no-check clause of `is_sane` on a board with consistent bitboards, one king each and non-adjacent
kings -/
theorem nocheck_clause_iff {T : Tables} (hT : TablesOK T) {b : Board} (hs : Struct b)
    (hkw : (b.kings &&& b.colorCombined .white).popcnt = 1) (hkb : (b.kings &&& b.colorCombined .black).popcnt = 1)
    (hna : (Geom.king (b.kingSquare .white)).getLsbD (b.kingSquare .black).val = false) :
    (Board.updatePinInfo T { b with stm := b.stm.other }).checkers = 0#64 ↔ inCheck b.abs b.stm.other = false := by
  refine flip_checkers_zero_iff hT hs ?_ (kingsApart_of_nonadjacent hs hkw hkb hna b.stm.other)
  cases b.stm
  · exact hkb
  · exact hkw

/-! ### soundness -/

/-- **C07 (e)**: on every board that passes `is_sane` (with consistent colour boards), the side not to
move is not in check -/
theorem nonmover_not_in_check {T : Tables} (hT : TablesOK T) {b : Board} (hs : Struct b) (hf : SaneFacts T b) :
    inCheck b.abs b.stm.other = false :=
  (nocheck_clause_iff hT hs hf.wking hf.bking
    ((kings_apart_clause_iff hT hs hf.wking hf.bking).mp hf.kings_apart)).mp hf.nocheck

/-- the hypothesis `KingsApart` of `CheckPin.checkers_exact` holds on every sane board -/
theorem kingsApart_of_facts {T : Tables} (hT : TablesOK T) {b : Board} (hs : Struct b) (hf : SaneFacts T b) :
    KingsApart b :=
  kingsApart_of_nonadjacent hs hf.wking hf.bking
    ((kings_apart_clause_iff hT hs hf.wking hf.bking).mp hf.kings_apart) b.stm

/-! ### completeness -/

/-- a side not in check is not attacked by the enemy king: the kings are not adjacent -/
theorem nonadjacent_of_not_inCheck {b : Board} (hs : Struct b)
    (hkw : (b.kings &&& b.colorCombined .white).popcnt = 1) (hkb : (b.kings &&& b.colorCombined .black).popcnt = 1)
    (c : Color) (h : inCheck b.abs c = false) :
    (Geom.king (b.kingSquare .white)).getLsbD (b.kingSquare .black).val = false := by
  have hkc : ∀ d : Color, (b.kings &&& b.colorCombined d).popcnt = 1 := fun d => by cases d <;> assumption
  -- the enemy king does not attack
  have hcont : b.abs.board (b.kingSquare c.other) = some (.king, c.other) := content_kingSquare hs (hkc c.other)
  have := not_attacks_of_not_inCheck (kingSq?_abs hs (hkc c)) h (colorAt_of_board hcont)
  rw [attacks_king hcont] at this
  cases c with
  | white => rw [mem_king_symm]; exact this
  | black => exact this

/-- the candidate board of a valid position passes both check-detection clauses of `is_sane` -/
theorem checkClauses_of_valid {T : Tables} (hT : TablesOK T) {p : Pos} (hv : Valid p = true) :
    CheckClauses T (tryFromPre T p.toBuilder) := by
  have hs := (tryFromPre_spec T p.toBuilder).1.toStruct
  have habs := tryFromPre_abs T p
  have hkw := tryFromPre_king_of_valid T hv .white
  have hkb := tryFromPre_king_of_valid T hv .black
  have hnc : inCheck (tryFromPre T p.toBuilder).abs (tryFromPre T p.toBuilder).stm.other = false := by
    rw [Closure.inCheck_congr (q := p) (by rw [habs]), (tryFromPre_spec T p.toBuilder).2.2.1]
    exact ((Closure.valid_iff p).mp hv).notInCheck
  have hna := nonadjacent_of_not_inCheck hs hkw hkb _ hnc
  exact ⟨(nocheck_clause_iff hT hs hkw hkb hna).mpr hnc, (kings_apart_clause_iff hT hs hkw hkb).mpr hna⟩

/-- **C07 completeness**: every valid position is accepted, and the accepted board describes `norm p` -/
theorem tryFrom_complete {T : Tables} (hT : TablesOK T) {p : Pos} (hv : Valid p = true) :
    ∃ b, Board.tryFrom T p.toBuilder = some b ∧
      b.abs.board = (norm p).board ∧ b.abs.stm = (norm p).stm ∧
      (∀ c, b.abs.castleK c = (norm p).castleK c) ∧ (∀ c, b.abs.castleQ c = (norm p).castleQ c) ∧
      b.abs.ep = (norm p).ep :=
  tryFrom_complete_partial hT hv (checkClauses_of_valid hT hv)

end SaneCheck
end Chess
