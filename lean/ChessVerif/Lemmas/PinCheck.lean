import ChessVerif.Lemmas.PinCheck3
/-
Pins and checks on the specification, part 4: the characterisation of legality for moves of a man
other than the king that are not en passant (`Ctx.legal_nonking_iff`), and its three regimes:
no check, single check, double check (`Ctx.no_check`, `Ctx.single_check`, `Ctx.double_check`).
-/
namespace Chess
namespace PinCheck

variable {p : Pos} {m : Move} {k : Sq}

/-- **answering an attacker**: an enemy slider aligned with the king whose path holds at most the
moving man does not attack afterwards only if it is captured or the destination interposes -/
theorem slider_answer {x : Sq} (ex : p.colorAt x = some p.stm.other)
    (hsa : sliderAligned (p.board x) x k = true)
    (hc : ∀ z, strictlyBetween x z k = true → z = m.src ∨ p.empty z = true)
    (hna : ¬ After p m k x) : m.dst = x ∨ strictlyBetween x m.dst k = true := by
  by_cases hd : x = m.dst
  · exact Or.inl hd.symm
  · cases hb : strictlyBetween x m.dst k with
    | true => exact Or.inr rfl
    | false =>
      refine (hna ⟨ex, hd, Or.inl ⟨hsa, fun z hz => ⟨?_, hc z hz⟩⟩⟩).elim
      rintro rfl
      exact Bool.false_ne_true (hb.symm.trans hz)

theorem not_After_of_answer {x : Sq} (ha : m.dst = x ∨ strictlyBetween x m.dst k = true) :
    ¬ After p m k x := by
  rintro ⟨_, hd, hh⟩
  rcases ha with ha | ha
  · exact hd ha.symm
  · rcases hh with ⟨_, hall⟩ | hl
    · exact (hall m.dst ha).1 rfl
    · exact leaper_no_between hl ha

namespace Ctx

theorem kingSq (h : Ctx p m k) : kingSq? p p.stm = some k := kingSq?_of_KingAt h.king

theorem checker_enemy (h : Ctx p m k) {x : Sq} (hx : checkerSq p x = true) :
    p.colorAt x = some p.stm.other := ((checkerSq_iff h.kingSq x).mp hx).1

theorem checker_clear (h : Ctx p m k) {x z : Sq} (hx : checkerSq p x = true)
    (hz : strictlyBetween x z k = true) : p.empty z = true := by
  rcases ((checkerSq_iff h.kingSq x).mp hx).2 with ⟨_, hc⟩ | hl
  · exact hc z hz
  · exact (leaper_no_between hl hz).elim

theorem checker_path (h : Ctx p m k) {x : Sq} (hx : checkerSq p x = true) :
    ∀ z, strictlyBetween x z k = true → z = m.src ∨ p.empty z = true :=
  fun _ hz => Or.inr (h.checker_clear hx hz)

theorem checker_answer (h : Ctx p m k) {x : Sq} (hx : checkerSq p x = true) (hna : ¬ After p m k x) :
    m.dst = x ∨ strictlyBetween x m.dst k = true := by
  obtain ⟨ex, hh⟩ := (checkerSq_iff h.kingSq x).mp hx
  rcases hh with ⟨hsa, hc⟩ | hl
  · exact slider_answer ex hsa (fun z hz => Or.inr (hc z hz)) hna
  · by_cases hd : x = m.dst
    · exact Or.inl hd.symm
    · exact absurd ⟨ex, hd, Or.inr hl⟩ hna

/-- **two lines, one move**: two different enemy men, each with a path to the king holding at most the
moving man, cannot both be answered (captured or interposed) by one destination square -/
theorem two_lines_false (h : Ctx p m k) {x y : Sq} (ex : p.colorAt x = some p.stm.other)
    (ey : p.colorAt y = some p.stm.other) (hne : x ≠ y)
    (cx : ∀ z, strictlyBetween x z k = true → z = m.src ∨ p.empty z = true)
    (cy : ∀ z, strictlyBetween y z k = true → z = m.src ∨ p.empty z = true)
    (ax : m.dst = x ∨ strictlyBetween x m.dst k = true)
    (ay : m.dst = y ∨ strictlyBetween y m.dst k = true) : False := by
  have key : ∀ {x}, p.colorAt x = some p.stm.other → ¬ (x = m.src ∨ p.empty x = true) := fun ex e =>
    e.elim (h.enemy_ne_src ex) fun e => Bool.false_ne_true ((not_empty_of_colorAt ex).symm.trans e)
  rcases ax with rfl | ax
  · rcases ay with rfl | ay
    · exact hne rfl
    · exact key ex (cy _ ay)
  · rcases ay with rfl | ay
    · exact key ey (cx _ ax)
    · rcases same_ray ax ay with e | e | e
      · exact hne e
      · exact key ex (cy x e)
      · exact key ey (cx y e)

theorem pinner_ne_checker (h : Ctx p m k) {x y : Sq} (hx : checkerSq p x = true)
    (hy : strictlyBetween y m.src k = true) : x ≠ y := by
  rintro rfl
  exact Bool.false_ne_true (h.src_not_empty.symm.trans (h.checker_clear hx hy))

theorem After_cases (h : Ctx p m k) {y : Sq} (hy : After p m k y) :
    checkerSq p y = true ∨
      (pinnedSq p m.src = true ∧ strictlyBetween y m.src k = true ∧ y ≠ m.dst ∧
        strictlyBetween y m.dst k = false) := by
  obtain ⟨ey, hd, hh⟩ := hy
  rw [checkerSq_iff h.kingSq, pinnedSq_iff h.kingSq]
  rcases hh with ⟨hsa, hall⟩ | hl
  · cases hs : strictlyBetween y m.src k with
    | false =>
      refine Or.inl ⟨ey, Or.inl ⟨hsa, fun z hz => (hall z hz).2.resolve_left ?_⟩⟩
      rintro rfl
      exact Bool.false_ne_true (hs.symm.trans hz)
    | true =>
      refine Or.inr ⟨⟨h.colorAt_src, h.srcNe, y, ey, hs, fun z hz => (hall z hz).2, hsa⟩, rfl, hd, ?_⟩
      cases hb : strictlyBetween y m.dst k with
      | false => rfl
      | true => exact absurd rfl (hall m.dst hb).1
  · exact Or.inl ⟨ey, Or.inr hl⟩

theorem off_line_exposes (h : Ctx p m k) {y : Sq} (ey : p.colorAt y = some p.stm.other)
    (hs : strictlyBetween y m.src k = true)
    (hc : ∀ z, strictlyBetween y z k = true → z = m.src ∨ p.empty z = true)
    (hsa : sliderAligned (p.board y) y k = true) (hl : onLine m.src k m.dst = false) :
    attacks (apply p m) y k = true := by
  have hA : After p m k y := Classical.byContradiction fun na =>
    Bool.false_ne_true (hl.symm.trans (pin_line_fwd hs (slider_answer ey hsa hc na)))
  exact (h.after_attacks hA.1 hA.2.1).mpr hA.2.2

/-- legality of a move of a non-king man (not en passant): every checker is captured or blocked, and
the moving man is not pinned, or there is no check and it stays on the line through itself and the king -/
theorem legal_nonking_iff (h : Ctx p m k) (hpl : pseudoLegal p m = true) :
    legal p m = true ↔
      (∀ x, checkerSq p x = true → m.dst = x ∨ strictlyBetween x m.dst k = true) ∧
      (pinnedSq p m.src = false ∨ ((∀ x, checkerSq p x = false) ∧ onLine m.src k m.dst = true)) := by
  rw [legal_iff_no_After h hpl]
  constructor
  · intro hna
    refine ⟨fun x hx => h.checker_answer hx (hna x), ?_⟩
    cases hp : pinnedSq p m.src with
    | false => exact Or.inl rfl
    | true =>
      -- the pinner `y` must be answered; no second line can be answered by the same move
      obtain ⟨_, _, y, ey, hs, hc, hsa⟩ := (pinnedSq_iff h.kingSq m.src).mp hp
      have ay := slider_answer ey hsa hc (hna y)
      refine Or.inr ⟨fun x => ?_, pin_line_fwd hs ay⟩
      cases hx : checkerSq p x with
      | false => rfl
      | true =>
        exact (h.two_lines_false (h.checker_enemy hx) ey (h.pinner_ne_checker hx hs) (h.checker_path hx)
          hc (h.checker_answer hx (hna x)) ay).elim
  · rintro ⟨hall, hor⟩ y hy
    rcases h.After_cases hy with hc | ⟨hpin, hs, hd, hb⟩
    · exact not_After_of_answer (hall y hc) hy
    · rcases hor with hp | ⟨_, hl⟩
      · exact Bool.false_ne_true (hp.symm.trans hpin)
      · -- on the line but not on the pin segment: the move jumped over the pinner or the king
        rcases pin_line_bwd hs hl h.dst_ne_src h.dst_ne_king (Ne.symm hd) hb with e | e
        · exact Bool.false_ne_true ((not_empty_of_colorAt hy.1).symm.trans (h.plain.path y e))
        · exact Bool.false_ne_true (h.king_not_empty.symm.trans (h.plain.path k e))

theorem no_check (h : Ctx p m k) (hpl : pseudoLegal p m = true) (hnone : ∀ x, checkerSq p x = false) :
    legal p m = true ↔ (pinnedSq p m.src = false ∨ onLine m.src k m.dst = true) := by
  rw [h.legal_nonking_iff hpl]
  exact ⟨fun ⟨_, hor⟩ => hor.imp_right And.right, fun hor =>
    ⟨fun x hx => absurd ((hnone x).symm.trans hx) Bool.false_ne_true, hor.imp_right fun hl => ⟨hnone, hl⟩⟩⟩

theorem single_check (h : Ctx p m k) (hpl : pseudoLegal p m = true) {x : Sq}
    (hx : checkerSq p x = true) (huniq : ∀ y, checkerSq p y = true → y = x) :
    legal p m = true ↔
      pinnedSq p m.src = false ∧ (m.dst = x ∨ strictlyBetween x m.dst k = true) := by
  rw [h.legal_nonking_iff hpl]
  constructor
  · rintro ⟨hall, hor⟩
    exact ⟨hor.resolve_right fun ⟨hn, _⟩ => Bool.false_ne_true ((hn x).symm.trans hx), hall x hx⟩
  · rintro ⟨hp, ax⟩
    exact ⟨fun y hy => (huniq y hy).symm ▸ ax, Or.inl hp⟩

theorem double_check (h : Ctx p m k) (hpl : pseudoLegal p m = true) {x y : Sq}
    (hx : checkerSq p x = true) (hy : checkerSq p y = true) (hne : x ≠ y) : legal p m = false := by
  cases hl : legal p m with
  | false => rfl
  | true =>
    have hall := ((h.legal_nonking_iff hpl).mp hl).1
    exact (h.two_lines_false (h.checker_enemy hx) (h.checker_enemy hy) hne (h.checker_path hx)
      (h.checker_path hy) (hall x hx) (hall y hy)).elim

end Ctx

end PinCheck
end Chess
