import ChessVerif.Lemmas.MoveInv
import ChessVerif.Lemmas.CheckPin
import ChessVerif.Lemmas.Closure
import ChessVerif.Lemmas.SaneCheck
/-!
`make_move_new` maintains `pinned` / `checkers` incrementally: it starts from `0`, adds the direct check
of the man that has just moved (knight, pawn, pawn promoted to a knight) and then runs the slider scan of
`update_pin_info` for the new side to move.  This file shows that the result is what `update_pin_info`
computes from scratch on the new board (`Board.PinOK`).

The scan adds to what it is given (`CheckPin.scan_eq`), so it suffices that before the scan `pinned` is
empty and `checkers` holds the from-scratch knights and pawns.  On the specification: after a pseudo-legal
move made in a position where the side not to move is not in check, the only knight / pawn of the mover
that can attack the opponent's king is the man on the destination square.

With this step (`makeMove_pinOK`) the file also states the invariants of play:
* `board_determined`: `Core`, `PinOK` and the position determine the board, field by field;
* `Board.Good T b`, "a well-formed board holding a valid position" (`Core`, `PinOK`, `Valid b.abs`), which
  the theorems about the move generator assume, with what follows from it (one king each, `KingsApart`,
  `checkers = 0 ⇔ not in check`) and its closure under `try_from` of a valid position, `null_move` and
  `make_move_new` of a legal move;
* `ReachInv`, which is `Good` and "the en-passant mark is recorded under the library's policy `norm`", and
  `Reached`, the boards reached by legal moves and null moves from a board set up with a valid position:
  each of them is the board `try_from` builds from its own builder view (`ReachInv.tryFrom_toBuilder`).
-/
namespace Chess
namespace PinStep
open CheckPin PinCheck

/-! ### the model: what `make_move_new` leaves in `pinned` / `checkers` before the scan -/

theorem setCastleRights_checkers (b : Board) (c : Color) (cr : CastleRights) :
    (b.setCastleRights c cr).checkers = b.checkers := by cases c <;> rfl
theorem setCastleRights_pinned (b : Board) (c : Color) (cr : CastleRights) :
    (b.setCastleRights c cr).pinned = b.pinned := by cases c <;> rfl
theorem setEp_checkers (T : Tables) (b : Board) (s : Sq) : (b.setEp T s).checkers = b.checkers := by
  unfold Board.setEp; split <;> rfl
theorem setEp_pinned (T : Tables) (b : Board) (s : Sq) : (b.setEp T s).pinned = b.pinned := by
  unfold Board.setEp; split <;> rfl

theorem mm1_checkers (T : Tables) (b : Board) (m : Move) (moved : Piece) :
    (mm1 T b m moved).checkers = 0#64 ∧ (mm1 T b m moved).pinned = 0#64 := by
  unfold mm1 moveBase
  cases b.pieceOn m.dst <;>
    simp only [setCastleRights_checkers, setCastleRights_pinned, xor_checkers, xor_pinned] <;> exact ⟨rfl, rfl⟩

/-- the direct check of a man of kind `man` of colour `c` that has just arrived on `d`, as `make_move_new`
computes it: only knights and pawns give one -/
def leapOf (T : Tables) (man : Piece) (k d : Sq) (c : Color) : BB :=
  if man = .knight then T.knight k &&& BB.ofSq d
  else if man = .pawn then T.pawnAttacks c.other k &&& BB.ofSq d else 0#64

theorem withCheckers_checkers (b : Board) (x : BB) : (b.withCheckers x).checkers = x := rfl
theorem withCheckers_pinned (b : Board) (x : BB) : (b.withCheckers x).pinned = b.pinned := rfl

/-- phase 2 adds the direct check of the arriving man and nothing else (the code has no case for a
promotion to a pawn, which no pseudo-legal move is) -/
theorem mm2_checkers (T : Tables) (stm : Color) (ep0 : Option Sq) (m : Move) (moved : Piece) (r : Board)
    (hq : moved = .pawn → m.promo ≠ some .pawn) :
    (mm2 T stm ep0 m moved r).checkers = r.checkers ^^^ leapOf T (finalMan m moved) (mmKsq r) m.dst r.stm ∧
    (mm2 T stm ep0 m moved r).pinned = r.pinned := by
  unfold mm2 finalMan leapOf
  by_cases hk : moved = .knight
  · subst hk
    exact ⟨rfl, rfl⟩
  · rw [if_neg hk]
    by_cases hp : moved = .pawn
    · subst hp
      rw [if_pos rfl, if_pos rfl]
      cases hpr : m.promo with
      | none =>
        dsimp only [Option.getD]
        by_cases hd : mmDbl T m
        · rw [if_pos hd, withCheckers_checkers, withCheckers_pinned, setEp_checkers, setEp_stm, setEp_pinned]
          exact ⟨rfl, rfl⟩
        · rw [if_neg hd]
          by_cases he : some (m.dst.ubackward stm) = ep0
          · rw [if_pos he, withCheckers_checkers, withCheckers_pinned, xor_checkers, xor_stm, xor_pinned]
            exact ⟨rfl, rfl⟩
          · rw [if_neg he]
            exact ⟨rfl, rfl⟩
      | some q =>
        cases q with
        | pawn => exact absurd hpr (hq rfl)
        | knight =>
          dsimp only [Option.getD]
          rw [withCheckers_checkers, withCheckers_pinned, xor_checkers, xor_checkers, xor_pinned, xor_pinned]
          exact ⟨rfl, rfl⟩
        | bishop | rook | queen | king =>
          dsimp only [Option.getD]
          rw [xor_checkers, xor_checkers, xor_pinned, xor_pinned]
          exact ⟨BitVec.xor_zero.symm, rfl⟩
    · rw [if_neg hp, if_neg hp, if_neg hk, if_neg hp, BitVec.xor_zero]
      by_cases hc : mmCastles T m moved = true
      · rw [if_pos hc, xor_checkers, xor_checkers, xor_pinned, xor_pinned]
        exact ⟨rfl, rfl⟩
      · rw [if_neg hc]
        exact ⟨rfl, rfl⟩

theorem leapOf_bit_ne (T : Tables) (man : Piece) (k d : Sq) (c : Color) {x : Sq} (hx : x ≠ d) :
    (leapOf T man k d c).getLsbD x.val = false := by
  have h0 : ∀ A : BB, (A &&& BB.ofSq d).getLsbD x.val = false := fun A => by
    rw [BitVec.getLsbD_and, BB.getLsbD_ofSq, decide_eq_false (fun e => hx (Fin.ext e)), Bool.and_false]
  unfold leapOf
  by_cases hn : man = .knight
  · rw [if_pos hn]; exact h0 _
  · rw [if_neg hn]
    by_cases hp : man = .pawn
    · rw [if_pos hp]; exact h0 _
    · rw [if_neg hp]; exact BitVec.getLsbD_zero

theorem leapOf_bit_dst (T : Tables) (man : Piece) (k d : Sq) (c : Color) :
    (leapOf T man k d c).getLsbD d.val =
      (((T.knight k).getLsbD d.val && decide (Piece.knight = man)) ^^
        ((T.pawnAttacks c.other k).getLsbD d.val && decide (Piece.pawn = man))) := by
  have h1 : ∀ X : BB, (X &&& BB.ofSq d).getLsbD d.val = X.getLsbD d.val := fun X => by
    rw [BitVec.getLsbD_and, BB.getLsbD_ofSq_self, Bool.and_true]
  unfold leapOf
  cases man <;> simp only [h1, reduceCtorEq, ↓reduceIte, decide_true, decide_false, Bool.and_true, Bool.and_false,
    Bool.xor_false, Bool.false_xor, BitVec.getLsbD_zero]

/-! ### the specification: what can attack the opponent's king after a move -/

theorem apply_dst {p : Pos} {m : Move} {pc : Piece} {c : Color} (hs : p.board m.src = some (pc, c)) :
    (apply p m).board m.dst = some (finalMan m pc, c) :=
  (apply_board_dst p m).trans (movedMan_eq hs)

/-- no king is captured: only `count = 1` for the opponent's king and "opponent not in check" are used -/
theorem dst_not_king {p : Pos} {m : Move} (hk1 : count p (· == (.king, p.stm.other)) = 1)
    (hnc : inCheck p p.stm.other = false) (hs : Closure.Shape p m) :
    p.board m.dst ≠ some (.king, p.stm.other) := by
  intro hk
  cases hs with
  | normal pc pc' hsrc hdst hne hpc hatk _ _ =>
    have ha := hatk (by rw [hk]; nofun)
    have := Closure.inCheck_of_attack hk1 hk (by rw [Color.other_other]; exact hsrc) ha
    rw [hnc] at this; cases this
  | ep q pc' _ hdst => rw [hdst] at hk; cases hk
  | castle r t _ _ _ hdst => rw [hdst] at hk; cases hk

theorem upd_apply (f : Sq → Option (Piece × Color)) (s x : Sq) (v : Option (Piece × Color)) :
    Closure.upd f s v x = if x = s then v else f x := rfl

theorem apply_other {p : Pos} {m : Move} (hs : Closure.Shape p m) {x : Sq} (hx : x ≠ m.dst) :
    (apply p m).board x = p.board x ∨
    ((apply p m).board x = none ∧ (p.colorAt x = some p.stm ∨ p.board x = some (.pawn, p.stm.other))) ∨
    ((apply p m).board x = some (.rook, p.stm) ∧ p.board x = none) := by
  cases hs with
  | normal pc pc' hsrc _ _ _ _ _ hboard =>
    rw [hboard, upd_apply, if_neg hx, upd_apply]
    by_cases h1 : x = m.src
    · rw [if_pos h1, h1]; exact Or.inr (Or.inl ⟨rfl, Or.inl (colorAt_of_board hsrc)⟩)
    · rw [if_neg h1]; exact Or.inl rfl
  | ep q pc' hsrc _ hq _ _ _ _ _ _ hboard =>
    rw [hboard, upd_apply, if_neg hx, upd_apply]
    by_cases h1 : x = m.src
    · rw [if_pos h1, h1]; exact Or.inr (Or.inl ⟨rfl, Or.inl (colorAt_of_board hsrc)⟩)
    · rw [if_neg h1, upd_apply]
      by_cases h2 : x = q
      · rw [if_pos h2, h2]; exact Or.inr (Or.inl ⟨rfl, Or.inr hq⟩)
      · rw [if_neg h2]; exact Or.inl rfl
  | castle r t hsrc _ _ _ hr ht _ _ _ _ _ _ _ _ hboard =>
    rw [hboard, upd_apply, if_neg hx, upd_apply]
    by_cases h1 : x = m.src
    · rw [if_pos h1, h1]; exact Or.inr (Or.inl ⟨rfl, Or.inl (colorAt_of_board hsrc)⟩)
    · rw [if_neg h1, upd_apply]
      by_cases h2 : x = r
      · rw [if_pos h2, h2]; exact Or.inr (Or.inl ⟨rfl, Or.inl (colorAt_of_board hr)⟩)
      · rw [if_neg h2, upd_apply]
        by_cases h3 : x = t
        · rw [if_pos h3, h3]; exact Or.inr (Or.inr ⟨rfl, ht⟩)
        · rw [if_neg h3]; exact Or.inl rfl

theorem apply_old {p : Pos} {m : Move} (hs : Closure.Shape p m) {x : Sq} {man : Piece × Color}
    (hx : x ≠ m.dst) (h : (apply p m).board x = some man) (hman : man ≠ (.rook, p.stm)) :
    p.board x = some man := by
  rcases apply_other hs hx with e | ⟨e, _⟩ | ⟨e, _⟩
  · rw [← e]; exact h
  · rw [e] at h; cases h
  · rw [e] at h; exact absurd (Option.some.inj h).symm hman

theorem kingAt_apply {p : Pos} {m : Move} (hnc : inCheck p p.stm.other = false) (hpl : pseudoLegal p m = true)
    {K : Sq} (hK : KingAt p p.stm.other K) : KingAt (apply p m) p.stm.other K := by
  have hs := Closure.pseudoLegal_shape hpl
  obtain ⟨pc, hsrc, _⟩ := pseudoLegal_src hpl
  have hne : ∀ {s : Sq} {q : Piece}, (apply p m).board s = some (q, p.stm.other) → s ≠ m.dst := by
    intro s q h e
    rw [e, apply_dst hsrc] at h
    exact Color.other_ne p.stm (congrArg Prod.snd (Option.some.inj h)).symm
  intro s
  constructor
  · intro h
    exact (hK s).mp (apply_old hs (hne h) h (by simp))
  · rintro rfl
    have hb := (hK s).mpr rfl
    rcases apply_other hs (fun e => dst_not_king (count_of_KingAt hK).2 hnc hs (e ▸ hb)) with e | ⟨_, e | e⟩ | ⟨_, e⟩
    · rw [e]; exact hb
    · rw [colorAt_of_board hb] at e
      exact absurd (Option.some.inj e) (Color.other_ne p.stm)
    · rw [hb] at e; cases e
    · rw [hb] at e; cases e

/-- after the move, a knight or pawn of the mover that attacks the opponent's king stands on the
destination square: every other one stood there before, when that king was not in check -/
theorem leaper_only_dst {p : Pos} {m : Move} (hk1 : count p (· == (.king, p.stm.other)) = 1)
    (hnc : inCheck p p.stm.other = false) (hs : Closure.Shape p m) {K : Sq}
    (hK : p.board K = some (.king, p.stm.other)) {x : Sq} {pc : Piece} (hpc : pc = .knight ∨ pc = .pawn)
    (hx : (apply p m).board x = some (pc, p.stm)) (hl : leaperAtt (some (pc, p.stm)) x K = true) :
    x = m.dst := by
  apply Classical.byContradiction
  intro hxd
  have hold := apply_old hs hxd hx (by rcases hpc with rfl | rfl <;> simp)
  have hatk : attacks p x K = true := by
    rw [attacks_eq, hold, hl, Bool.or_true]
  have := Closure.inCheck_of_attack hk1 hK (by rw [Color.other_other]; exact hold) hatk
  rw [hnc] at this; cases this

theorem promo_not_pawn {p : Pos} {m : Move} (h : pseudoLegal p m = true)
    (hs : p.board m.src = some (.pawn, p.stm)) : m.promo ≠ some .pawn := by
  intro hq
  unfold pseudoLegal at h
  rw [hs, hq] at h
  simp only [Bool.and_eq_true] at h
  have hp := h.2.1
  by_cases hr : (m.dst.rank == p.stm.lastRank) = true
  · rw [if_pos hr] at hp; cases hp
  · rw [if_neg hr] at hp; cases hp

/-! ### phase 3 and the assembly -/

theorem kingSquare_of_content {b : Board} (hs : Struct b) {c : Color} {K : Sq}
    (h : ∀ s, b.content s = some (.king, c) ↔ s = K) :
    b.kingSquare c = K ∧ (b.kings &&& b.colorCombined c).popcnt = 1 := by
  have e : b.kings &&& b.colorCombined c = BB.ofSq K := by
    apply eq_ofSq_of_bits
    intro z
    rw [← h z, hs.content_some_iff, BitVec.getLsbD_and, Bool.and_eq_true]
    exact Iff.rfl
  unfold Board.kingSquare
  rw [e]
  exact ⟨BB.toSq_ofSq K, popcnt_ofSq K⟩

/-- phase 3 run on a board whose `pinned` is empty and whose `checkers` holds exactly the from-scratch
leaper contributions gives a board with from-scratch `pinned` / `checkers` -/
theorem mm3_pinOK (T : Tables) (r : Board) (k : Sq) (hp : r.pinned = 0#64)
    (hc : r.checkers = leapers T (mm3 T k r) k) (hk : r.kingSquare r.stm.other = k) : (mm3 T k r).PinOK T := by
  -- the scan of `make_move_new` visits the squares `update_pin_info` visits after the side flip
  have hpin : pinnersAt T (mm3 T k r) k = r.colorCombined r.stm &&&
      ((T.bishopRays k &&& (r.bishops ||| r.queens)) ||| (T.rookRays k &&& (r.rooks ||| r.queens))) := by
    show r.colorCombined r.stm.other.other &&& _ = _
    rw [Color.other_other]
    rfl
  unfold Board.PinOK
  rw [updatePinInfo_with, updatePinInfo_pinned, updatePinInfo_checkers,
    show (mm3 T k r).kingSquare (mm3 T k r).stm = k from hk, hpin, ← hc, BitVec.xor_comm,
    ← scan_snd T _ k _ r.pinned, ← BitVec.zero_xor (x := xorAll _), ← hp, ← scan_fst T _ k _ _ r.checkers]
  rfl

/-- **the incrementally maintained `pinned` / `checkers` of `make_move_new` are the from-scratch ones.**
Hypotheses on the position before the move: the move is pseudo-legal, the two side conditions of C02
(`EpSane`, `RightsSane`), the opponent has exactly one king and is not in check. -/
theorem makeMove_pinOK {T : Tables} (hT : TablesOK T) {b : Board} (hc : Core T b) {m : Move}
    (hpl : pseudoLegal b.abs m = true) (hep : b.abs.EpSane) (hrs : b.abs.RightsSane)
    (hk1 : count b.abs (· == (.king, b.stm.other)) = 1) (hnc : inCheck b.abs b.stm.other = false)
    {b' : Board} (h : b.makeMoveNew T m = some b') : b'.PinOK T := by
  obtain ⟨pc, hsrc, hdc⟩ := pseudoLegal_src hpl
  have hS : b.content m.src = some (pc, b.stm) := hsrc
  obtain ⟨b'', hmk, hcore', hcont', hstm', _⟩ := make_move_refines hT hc hpl hep hrs
  rw [h] at hmk
  cases hmk
  have hs' := hcore'.toStruct
  rw [makeMoveNew_eq, pieceOn_of_content hc.toStruct hS] at h
  replace h := Option.some.inj h
  have hshape := Closure.pseudoLegal_shape hpl
  -- the opponent's king does not move: `K` is its square on all boards in sight
  have hKAt : KingAt b.abs b.abs.stm.other (b.kingSquare b.stm.other) :=
    kingAt hc.toStruct ((hc.toStruct.count_piece_color .king b.stm.other).symm.trans hk1)
  have hKb : b.content (b.kingSquare b.stm.other) = some (.king, b.stm.other) := (hKAt _).mpr rfl
  have hK' : b'.kingSquare b.stm.other = b.kingSquare b.stm.other :=
    (kingSquare_of_content hs' fun s => by rw [hcont']; exact kingAt_apply hnc hpl hKAt s).1
  have hph := Phase1.of_mm1 hc hS hdc
  have hK1 : mmKsq (mm1 T b m pc) = b.kingSquare b.stm.other := by
    show (mm1 T b m pc).kingSquare (mm1 T b m pc).stm.other = _
    rw [hph.stm]
    refine (kingSquare_of_content hph.core.toStruct fun s => ?_).1
    rw [hph.content, ← hKAt s]
    by_cases h1 : s = m.dst
    · rw [if_pos h1, h1]
      exact iff_of_false (fun e => Color.other_ne b.stm (congrArg Prod.snd (Option.some.inj e)).symm)
        (dst_not_king hk1 hnc hshape)
    · rw [if_neg h1]
      by_cases h2 : s = m.src
      · rw [if_pos h2, h2]
        exact iff_of_false nofun fun e => Color.other_ne b.stm
          (congrArg Prod.snd (Option.some.inj (hsrc.symm.trans e))).symm
      · rw [if_neg h2]
        exact Iff.rfl
  rw [hK1] at h
  -- what phases 1 and 2 leave in the two fields
  obtain ⟨hck, hpn⟩ := mm2_checkers T b.stm b.ep m pc (mm1 T b m pc)
    fun hp => promo_not_pawn hpl (hp ▸ hsrc)
  rw [(mm1_checkers T b m pc).1, BitVec.zero_xor, hK1, mm1_stm] at hck
  rw [(mm1_checkers T b m pc).2] at hpn
  have hso : b'.stm.other = b.stm := by rw [hstm', Color.other_other]
  rw [← h]
  refine mm3_pinOK T _ _ hpn ?_ (by rw [(mm2_fields ..).1, mm1_stm, ← hK']; rw [← h]; rfl)
  rw [hck, h]
  -- the direct check of the arriving man against the from-scratch knights and pawns, bit by bit
  have hdst : b'.content m.dst = some (finalMan m pc, b.stm) := by rw [hcont']; exact apply_dst hsrc
  refine BB.ext fun x => Bool.eq_iff_iff.mpr ?_
  rw [leapers, BitVec.getLsbD_xor]
  by_cases hx : x = m.dst
  · subst hx
    obtain ⟨hpb, hcb, _⟩ := bits_of_content_some hs' hdst
    have e1 : (b'.colorCombined b'.stm.other).getLsbD m.dst.val = true := by
      rw [hso]; exact (hcb b.stm).trans (decide_eq_true rfl)
    rw [leapOf_bit_dst, BitVec.getLsbD_and, BitVec.getLsbD_and, BitVec.getLsbD_and, BitVec.getLsbD_and, e1,
      show b'.knights.getLsbD m.dst.val = _ from hpb .knight, show b'.pawns.getLsbD m.dst.val = _ from hpb .pawn,
      hstm', Bool.and_true, Bool.true_and]
  · have key : ∀ {q : Piece}, q = .knight ∨ q = .pawn →
        ¬ (b'.content x = some (q, b'.stm.other) ∧ leaperAtt (b'.content x) x (b.kingSquare b.stm.other) = true) := by
      rintro q hq ⟨a1, a2⟩
      rw [a1, hso] at a2
      rw [hcont', hso] at a1
      exact hx (leaper_only_dst hk1 hnc hshape hKb hq a1 a2)
    rw [leapOf_bit_ne T _ _ _ _ hx,
      Bool.eq_false_iff.mpr fun hh => key (.inl rfl) ((knightCheck_iff hT hs' _ x).mp hh),
      Bool.eq_false_iff.mpr fun hh => key (.inr rfl) ((pawnCheck_iff hT hs' _ x).mp hh)]
    exact ⟨nofun, nofun⟩

/-! ### a board is determined by its position, `Core` and `PinOK` -/

theorem bits_congr {b₁ b₂ : Board} (hs₁ : Struct b₁) (hs₂ : Struct b₂) {s : Sq}
    (h : b₁.content s = b₂.content s) :
    (∀ q, b₁.pbit q s.val = b₂.pbit q s.val) ∧ (∀ d, b₁.cbit d s.val = b₂.cbit d s.val) := by
  cases h1 : b₁.content s with
  | none =>
    obtain ⟨p1, c1, _⟩ := bits_of_content_none hs₁ h1
    obtain ⟨p2, c2, _⟩ := bits_of_content_none hs₂ (h ▸ h1)
    exact ⟨fun q => (p1 q).trans (p2 q).symm, fun d => (c1 d).trans (c2 d).symm⟩
  | some x =>
    obtain ⟨p1, c1, _⟩ := bits_of_content_some hs₁ h1
    obtain ⟨p2, c2, _⟩ := bits_of_content_some hs₂ (h ▸ h1)
    exact ⟨fun q => (p1 q).trans (p2 q).symm, fun d => (c1 d).trans (c2 d).symm⟩

theorem placementHash_congr (T : Tables) {b₁ b₂ : Board} (h : b₁.content = b₂.content) :
    placementHash T b₁ = placementHash T b₂ := by
  unfold placementHash
  congr 1
  funext acc s
  rw [keyAt_content, keyAt_content, h]

/-- two boards with consistent bitboards, from-scratch hash and from-scratch pin / check caches that
describe the same position are equal, field by field -/
theorem board_determined {T : Tables} {b₁ b₂ : Board} (hc₁ : Core T b₁) (hc₂ : Core T b₂)
    (hp₁ : b₁.PinOK T) (hp₂ : b₂.PinOK T) (hcont : b₁.content = b₂.content) (hstm : b₁.stm = b₂.stm)
    (hw : b₁.wcr = b₂.wcr) (hb : b₁.bcr = b₂.bcr) (he : b₁.ep = b₂.ep) : b₁ = b₂ := by
  have hs₁ := hc₁.toStruct
  have hs₂ := hc₂.toStruct
  have hpieces : ∀ q, b₁.pieces q = b₂.pieces q := fun q =>
    BitVec.eq_of_getLsbD_eq fun i hi => (bits_congr hs₁ hs₂ (congrFun hcont ⟨i, hi⟩)).1 q
  have hcolors : ∀ d, b₁.colorCombined d = b₂.colorCombined d := fun d =>
    BitVec.eq_of_getLsbD_eq fun i hi => (bits_congr hs₁ hs₂ (congrFun hcont ⟨i, hi⟩)).2 d
  have hcomb : b₁.combined = b₂.combined := by
    rw [combined_eq_colors hs₁, combined_eq_colors hs₂, show b₁.white = b₂.white from hcolors .white,
      show b₁.black = b₂.black from hcolors .black]
  have hhash : b₁.hash = b₂.hash := by
    rw [hc₁.hash, hc₂.hash, placementHash_congr T hcont]
  -- `b₂` is `b₁` with other caches; `update_pin_info` does not read the caches
  have e : b₂ = { b₁ with pinned := b₂.pinned, checkers := b₂.checkers } :=
    Board.ext_fields (fun q => (hpieces q).symm) (fun d => (hcolors d).symm) hcomb.symm hstm.symm hw.symm hb.symm
      rfl rfl hhash.symm he.symm
  have hu : b₂.updatePinInfo T = b₁.updatePinInfo T := by
    rw [e]; rfl
  unfold Board.PinOK at hp₁ hp₂
  rw [← hp₁, ← hp₂, hu]

theorem board_determined_abs {T : Tables} {b₁ b₂ : Board} (hc₁ : Core T b₁) (hc₂ : Core T b₂)
    (hp₁ : b₁.PinOK T) (hp₂ : b₂.PinOK T) (h : b₁.abs = b₂.abs) : b₁ = b₂ := by
  have hcont : b₁.content = b₂.content := congrArg Pos.board h
  have hstm : b₁.stm = b₂.stm := congrArg Pos.stm h
  have hk : ∀ c, (b₁.castleRights c).ks = (b₂.castleRights c).ks := fun c => congrFun (congrArg Pos.castleK h) c
  have hq : ∀ c, (b₁.castleRights c).qs = (b₂.castleRights c).qs := fun c => congrFun (congrArg Pos.castleQ h) c
  have hcr : ∀ c, b₁.castleRights c = b₂.castleRights c := by
    intro c
    have h1 := hk c; have h2 := hq c
    revert h1 h2
    cases b₁.castleRights c; cases b₂.castleRights c
    intro h1 h2
    simp only at h1 h2
    rw [h1, h2]
  exact board_determined hc₁ hc₂ hp₁ hp₂ hcont hstm (hcr .white) (hcr .black) (congrArg Pos.ep h)

end PinStep

/-! ### the invariant of play -/

/-- a well-formed board holding a valid position: bitboards and hash consistent (`Core`), cached
`pinned` / `checkers` equal to the from-scratch ones (`PinOK`), and the position it describes is `Valid` -/
def Board.Good (T : Tables) (b : Board) : Prop := Core T b ∧ b.PinOK T ∧ Valid b.abs = true

namespace PinStep
open CheckPin

section Good
variable {T : Tables} {b : Board}

theorem _root_.Chess.Board.Good.core (h : b.Good T) : Core T b := h.1
theorem _root_.Chess.Board.Good.struct (h : b.Good T) : Struct b := h.1.toStruct
theorem _root_.Chess.Board.Good.pin (h : b.Good T) : b.PinOK T := h.2.1
theorem _root_.Chess.Board.Good.valid (h : b.Good T) : Valid b.abs = true := h.2.2
theorem _root_.Chess.Board.Good.validP (h : b.Good T) : Closure.ValidP b.abs := (Closure.valid_iff _).mp h.2.2

theorem _root_.Chess.Board.Good.oneKing (h : b.Good T) (c : Color) : (b.kings &&& b.colorCombined c).popcnt = 1 :=
  (h.struct.count_piece_color .king c).symm.trans (h.validP.king c)

/-- the kings are not adjacent: the side not to move is not in check, in particular not from the mover's
king, and adjacency of kings is symmetric -/
theorem _root_.Chess.Board.Good.kingsApart (h : b.Good T) : KingsApart b := by
  have hna := SaneCheck.nonadjacent_of_not_inCheck h.struct (h.oneKing .white) (h.oneKing .black)
    b.stm.other h.validP.notInCheck
  exact fun x hx => SaneCheck.kingsApart_of_nonadjacent h.struct (h.oneKing .white) (h.oneKing .black)
    hna b.stm x hx

/-- `checkers() == EMPTY` is "the side to move is not in check" -/
theorem _root_.Chess.Board.Good.checkers_zero_iff (hT : TablesOK T) (h : b.Good T) :
    b.checkers = 0#64 ↔ inCheck b.abs b.stm = false :=
  SaneCheck.checkers_zero_iff_notInCheck (h.pin.checkers_exact hT h.struct (h.oneKing b.stm) h.kingsApart)

theorem _root_.Chess.Board.Good.tryFrom {bd : Builder} (ht : Board.tryFrom T bd = some b) (hv : Valid b.abs = true) :
    b.Good T :=
  ⟨(tryFrom_spec T bd b ht).1, Board.PinOK.tryFrom ht, hv⟩

/-- every valid position can be set up, and the board built holds it (with the en-passant mark under the
library's recording policy `norm`) -/
theorem _root_.Chess.Board.Good.exists_of_valid (hT : TablesOK T) {p : Pos} (hv : Valid p = true) :
    ∃ b, Board.tryFrom T p.toBuilder = some b ∧ b.abs = norm p ∧ b.Good T := by
  obtain ⟨b, h0, e1, e2, e3, e4, e5⟩ := SaneCheck.tryFrom_complete hT hv
  have habs : b.abs = norm p := Pos.ext' e1 e2 (funext e3) (funext e4) e5
  refine ⟨b, h0, habs, .tryFrom h0 ?_⟩
  rw [habs]
  exact (Closure.valid_iff _).mpr (Closure.validP_norm ((Closure.valid_iff _).mp hv))

theorem _root_.Chess.Board.Good.nullMove (hT : TablesOK T) (hg : b.Good T) {b' : Board}
    (h : b.nullMove T = some b') : b'.Good T := by
  refine ⟨((nullMove_spec T b b' h).1.core_iff T).mpr hg.core, Board.PinOK.nullMove h, ?_⟩
  rw [nullMove_abs h]
  exact (Closure.valid_iff _).mpr
    (Closure.validP_null hg.validP ((hg.checkers_zero_iff hT).mp (nullMove_some T b b' h).1))

theorem _root_.Chess.Board.Good.makeMove (hT : TablesOK T) (hg : b.Good T) {m : Move} (hl : legal b.abs m = true) :
    ∃ b', b.makeMoveNew T m = some b' ∧ b'.Good T ∧ b'.abs = norm (apply b.abs m) := by
  have hv := hg.validP
  have hpl := Closure.legal_pseudo hl
  have hep := Valid_epSane hg.valid
  have hrs := Valid_rightsSane hg.valid
  obtain ⟨b', e, hc, habs⟩ := make_move_abs hT hg.core hpl hep hrs
  refine ⟨b', e, ⟨hc, makeMove_pinOK hT hg.core hpl hep hrs (hv.king _) hv.notInCheck e, ?_⟩, habs⟩
  rw [habs]
  exact (Closure.valid_iff _).mpr (Closure.validP_norm (Closure.validP_step hv hl))

end Good

/-- what holds of every board reached by play from an accepted builder state with a valid position -/
structure ReachInv (T : Tables) (b : Board) : Prop where
  core : Core T b
  pin : b.PinOK T
  valid : Valid b.abs = true
  epn : norm b.abs = b.abs

/-- `ReachInv` is `Good` plus "the en-passant mark is recorded under the library's policy" -/
theorem ReachInv.good {T : Tables} {b : Board} (hi : ReachInv T b) : b.Good T := ⟨hi.core, hi.pin, hi.valid⟩

theorem norm_eq_self {P : Pos}
    (h : ∀ q, P.ep = some q →
      (allSq.any fun s => s.rank == q.rank && (s.file - q.file).natAbs == 1 && P.has s .pawn P.stm) = true) :
    norm P = P := by
  obtain ⟨bd, st, ck, cq, ep⟩ := P
  unfold norm
  cases ep with
  | none => rfl
  | some q => simp only; rw [if_pos (h q rfl)]

theorem tryFrom_epn {T : Tables} (hT : TablesOK T) {bd : Builder} {b : Board}
    (h : Board.tryFrom T bd = some b) : norm b.abs = b.abs := by
  obtain ⟨hc, _, _, _, _, hep, _, _⟩ := tryFrom_spec T bd b h
  apply norm_eq_self
  intro q hq
  have hq' : b.ep = some q := hq
  rw [hq'] at hep
  cases hg : bd.getEnPassant with
  | none => rw [hg] at hep; cases hep
  | some e =>
    rw [hg] at hep
    obtain ⟨htest, hep⟩ := Option.ite_none_right_eq_some.mp hep.symm
    cases hep
    obtain ⟨s, h1, h2, h3⟩ := (adjTest_iff hT hc.toStruct q b.stm).mp htest
    rw [List.any_eq_true]
    refine ⟨s, mem_allSq s, ?_⟩
    simp only [Bool.and_eq_true, beq_iff_eq, Pos.has]
    exact ⟨⟨h1, h2⟩, h3⟩

theorem ReachInv.tryFrom {T : Tables} (hT : TablesOK T) {bd : Builder} {b : Board}
    (h : Board.tryFrom T bd = some b) (hv : Valid b.abs = true) : ReachInv T b :=
  ⟨(tryFrom_spec T bd b h).1, Board.PinOK.tryFrom h, hv, tryFrom_epn hT h⟩

theorem ReachInv.popcnt {T : Tables} {b : Board} (hi : ReachInv T b) (c : Color) :
    (b.kings &&& b.colorCombined c).popcnt = 1 :=
  hi.good.oneKing c

theorem ReachInv.checkers {T : Tables} (hT : TablesOK T) {b : Board} (hi : ReachInv T b) (x : Sq) :
    b.checkers.getLsbD x.val = checkerSq b.abs x :=
  hi.pin.checkers_exact hT hi.core.toStruct (hi.popcnt b.stm) hi.good.kingsApart x

theorem ReachInv.pinned {T : Tables} (hT : TablesOK T) {b : Board} (hi : ReachInv T b) (y : Sq) :
    (b.pinned &&& b.colorCombined b.stm).getLsbD y.val = pinnedSq b.abs y :=
  hi.pin.pinned_exact hT hi.core.toStruct (hi.popcnt b.stm) y

theorem ReachInv.move {T : Tables} (hT : TablesOK T) {b b' : Board} {m : Move} (hi : ReachInv T b)
    (hl : legal b.abs m = true) (h : b.makeMoveNew T m = some b') :
    ReachInv T b' ∧ b'.abs = norm (apply b.abs m) := by
  obtain ⟨b'', e, hg, habs⟩ := hi.good.makeMove hT hl
  cases e.symm.trans h
  exact ⟨⟨hg.core, hg.pin, hg.valid, by rw [habs]; exact Closure.norm_norm _⟩, habs⟩

theorem ReachInv.null {T : Tables} (hT : TablesOK T) {b b' : Board} (hi : ReachInv T b)
    (h : b.nullMove T = some b') : ReachInv T b' := by
  have hg := hi.good.nullMove hT h
  refine ⟨hg.core, hg.pin, hg.valid, norm_eq_self fun q hq => ?_⟩
  rw [nullMove_abs h] at hq
  cases hq

theorem ReachInv.tryFrom_toBuilder {T : Tables} (hT : TablesOK T) {b : Board} (hi : ReachInv T b) :
    Board.tryFrom T b.toBuilder = some b := by
  obtain ⟨b₀, h0, habs, hg⟩ := Board.Good.exists_of_valid hT hi.valid
  rw [hi.epn] at habs
  rw [board_determined_abs hg.core hi.core hg.pin hi.pin habs] at h0
  exact h0

theorem ReachInv.isSane {T : Tables} (hT : TablesOK T) {b : Board} (hi : ReachInv T b) : b.isSane T = true :=
  (tryFrom_spec T _ b (hi.tryFrom_toBuilder hT)).2.2.2.2.2.2.2

/-- boards reached from an accepted builder state holding a valid position by legal moves and null moves -/
inductive Reached (T : Tables) : Board → Prop
  | start (bd : Builder) (b : Board) : Board.tryFrom T bd = some b → Valid b.abs = true → Reached T b
  | null (b b' : Board) : Reached T b → b.nullMove T = some b' → Reached T b'
  | move (b b' : Board) (m : Move) : Reached T b → legal b.abs m = true → b.makeMoveNew T m = some b' →
      Reached T b'

theorem Reached.inv {T : Tables} (hT : TablesOK T) {b : Board} (h : Reached T b) : ReachInv T b := by
  induction h with
  | start bd b h hv => exact ReachInv.tryFrom hT h hv
  | null b b' _ h ih => exact ih.null hT h
  | move b b' m _ hl h ih => exact (ih.move hT hl h).1

end PinStep
end Chess
