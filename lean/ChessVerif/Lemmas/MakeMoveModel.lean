import ChessVerif.Lemmas.TryFrom
/-!
`make_move_new` cut into its phases: the toggles of mover and captured man with the rights updates (`mm1`),
the piece-specific part (`mm2`), the slider scan and side flip (`mm3`).  Up to the cached `pinned` and
`checkers`, phase 2 is `mmPlace` and phase 3 only flips the side (`makeMoveNew_some`).
Purely about the model: no specification here.
-/
namespace Chess

def Board.withCheckers (b : Board) (x : BB) : Board := { b with checkers := x }
def Board.reset (b : Board) : Board := { b with ep := none, checkers := 0#64, pinned := 0#64 }
def Board.finish (b : Board) (pinned checkers : BB) : Board :=
  { b with pinned := pinned, checkers := checkers, stm := b.stm.other }

/-- the toggles of the mover (and of the captured man, if any) -/
def moveBase (T : Tables) (b : Board) (moved : Piece) (S D : Sq) (c : Color) (capt : Option Piece) : Board :=
  match capt with
  | some cap => ((b.xor T moved (BB.ofSq S) c).xor T moved (BB.ofSq D) c).xor T cap (BB.ofSq D) c.other
  | none => (b.xor T moved (BB.ofSq S) c).xor T moved (BB.ofSq D) c

/-- phase 1: the toggles of mover and captured man, and the two castle-rights updates -/
def mm1 (T : Tables) (b : Board) (m : Move) (moved : Piece) : Board :=
  let r := moveBase T b.reset moved m.src m.dst b.stm (b.pieceOn m.dst)
  let r := r.setCastleRights b.stm.other
      ((r.castleRights b.stm.other).remove (squareToCastleRights b.stm.other m.dst))
  r.setCastleRights b.stm ((r.castleRights b.stm).remove (squareToCastleRights b.stm m.src))

def mmKsq (r : Board) : Sq := (r.kings &&& r.colorCombined r.stm.other).toSq

/-- the model's double-push test -/
def mmDbl (T : Tables) (m : Move) : Prop :=
  BB.ofSq m.src &&& T.pawnSrcDouble ≠ 0#64 ∧ BB.ofSq m.dst &&& T.pawnDstDouble ≠ 0#64
instance (T : Tables) (m : Move) : Decidable (mmDbl T m) := by unfold mmDbl; infer_instance

/-- the model's castling test -/
def mmCastles (T : Tables) (m : Move) (moved : Piece) : Bool :=
  moved == .king && ((BB.ofSq m.src ^^^ BB.ofSq m.dst) &&& T.castleMoves) == (BB.ofSq m.src ^^^ BB.ofSq m.dst)

/-- phase 2: the piece-specific part (`stm`, `ep0` are the mover and the old ep mark) -/
def mm2 (T : Tables) (stm : Color) (ep0 : Option Sq) (m : Move) (moved : Piece) (result : Board) : Board :=
  let ksq := mmKsq result
  let destBB := BB.ofSq m.dst
  if moved = .knight then
    result.withCheckers (result.checkers ^^^ (T.knight ksq &&& destBB))
  else if moved = .pawn then
    match m.promo with
    | some .knight =>
      let r := (result.xor T .pawn destBB stm).xor T .knight destBB stm
      r.withCheckers (r.checkers ^^^ (T.knight ksq &&& destBB))
    | some promotion =>
      (result.xor T .pawn destBB stm).xor T promotion destBB stm
    | none =>
      if mmDbl T m then
        let r := result.setEp T m.dst
        r.withCheckers (r.checkers ^^^ Board.pawnAttacks T ksq r.stm.other destBB)
      else if some (m.dst.ubackward stm) = ep0 then
        let r := result.xor T .pawn (BB.ofSq (m.dst.ubackward stm)) stm.other
        r.withCheckers (r.checkers ^^^ Board.pawnAttacks T ksq r.stm.other destBB)
      else
        result.withCheckers (result.checkers ^^^ Board.pawnAttacks T ksq result.stm.other destBB)
  else if mmCastles T m moved then
    let start := BB.set stm.backrank (Board.castleRookStart m.dst.getFile)
    let end_ := BB.set stm.backrank (Board.castleRookEnd m.dst.getFile)
    (result.xor T .rook start stm).xor T .rook end_ stm
  else result

/-- phase 3: the slider scan and the side flip -/
def mm3 (T : Tables) (ksq : Sq) (result : Board) : Board :=
  let attackers := result.colorCombined result.stm &&&
    ((T.bishopRays ksq &&& (result.bishops ||| result.queens)) |||
     (T.rookRays ksq &&& (result.rooks ||| result.queens)))
  let pc := Board.sliderScan T result.combined ksq attackers.toList (result.pinned, result.checkers)
  result.finish pc.1 pc.2

theorem makeMoveNew_eq (T : Tables) (b : Board) (m : Move) :
    b.makeMoveNew T m = match b.pieceOn m.src with
      | none => none
      | some moved => some (mm3 T (mmKsq (mm1 T b m moved)) (mm2 T b.stm b.ep m moved (mm1 T b m moved))) := rfl

theorem pl_finish (b : Board) (x y : BB) : (b.finish x y).pl = b.pl := rfl

theorem setCastleRights_stm (b : Board) (c : Color) (cr : CastleRights) : (b.setCastleRights c cr).stm = b.stm := by
  cases c <;> rfl
theorem setCastleRights_ep (b : Board) (c : Color) (cr : CastleRights) : (b.setCastleRights c cr).ep = b.ep := by
  cases c <;> rfl
theorem setCastleRights_castleRights (b : Board) (c d : Color) (cr : CastleRights) :
    (b.setCastleRights c cr).castleRights d = if d = c then cr else b.castleRights d := by
  cases c <;> cases d <;> rfl

theorem castleRights_of_fields {b b' : Board} (hw : b'.wcr = b.wcr) (hb : b'.bcr = b.bcr) (d : Color) :
    b'.castleRights d = b.castleRights d := by
  cases d
  · exact hw
  · exact hb

/-! ### phase 1 -/

theorem pl_moveBase (T : Tables) (b : Board) (moved : Piece) (S D : Sq) (c : Color) (capt : Option Piece) :
    (moveBase T b moved S D c capt).pl = (moveBase T b.pl moved S D c capt).pl := by
  cases capt <;> simp only [moveBase, pl_xor] <;> rfl

theorem moveBase_fields (T : Tables) (b : Board) (moved : Piece) (S D : Sq) (c : Color) (capt : Option Piece) :
    (moveBase T b moved S D c capt).stm = b.stm ∧ (moveBase T b moved S D c capt).ep = b.ep ∧
    ∀ d, (moveBase T b moved S D c capt).castleRights d = b.castleRights d := by
  cases capt <;>
    exact ⟨by simp only [moveBase, xor_stm], by simp only [moveBase, xor_ep],
      castleRights_of_fields (by simp only [moveBase, xor_wcr]) (by simp only [moveBase, xor_bcr])⟩

theorem mm1_pl (T : Tables) (b : Board) (m : Move) (moved : Piece) :
    (mm1 T b m moved).pl = (moveBase T b moved m.src m.dst b.stm (b.pieceOn m.dst)).pl := by
  unfold mm1
  simp only [pl_setCastleRights]
  rw [pl_moveBase, pl_moveBase T b]
  rfl

theorem mm1_stm (T : Tables) (b : Board) (m : Move) (moved : Piece) : (mm1 T b m moved).stm = b.stm := by
  unfold mm1
  simp only [setCastleRights_stm]
  exact (moveBase_fields ..).1

theorem mm1_ep (T : Tables) (b : Board) (m : Move) (moved : Piece) : (mm1 T b m moved).ep = none := by
  unfold mm1
  simp only [setCastleRights_ep]
  exact (moveBase_fields ..).2.1

theorem mm1_castleRights (T : Tables) (b : Board) (m : Move) (moved : Piece) (d : Color) :
    (mm1 T b m moved).castleRights d =
      (b.castleRights d).remove (squareToCastleRights d (if d = b.stm then m.src else m.dst)) := by
  unfold mm1
  simp only [setCastleRights_castleRights, (moveBase_fields ..).2.2]
  cases d <;> cases b.stm <;> rfl

/-! ### phase 2 -/

/-- phase 2 without its updates of `checkers` -/
def mmPlace (T : Tables) (stm : Color) (ep0 : Option Sq) (m : Move) (moved : Piece) (r : Board) : Board :=
  if moved = .pawn then
    match m.promo with
    | some q => (r.xor T .pawn (BB.ofSq m.dst) stm).xor T q (BB.ofSq m.dst) stm
    | none =>
      if mmDbl T m then r.setEp T m.dst
      else if some (m.dst.ubackward stm) = ep0 then r.xor T .pawn (BB.ofSq (m.dst.ubackward stm)) stm.other
      else r
  else if mmCastles T m moved then
    (r.xor T .rook (BB.set stm.backrank (Board.castleRookStart m.dst.getFile)) stm).xor T .rook
      (BB.set stm.backrank (Board.castleRookEnd m.dst.getFile)) stm
  else r

theorem mmCastles_not_king (T : Tables) (m : Move) {pc : Piece} (h : pc ≠ .king) : mmCastles T m pc = false := by
  unfold mmCastles
  cases pc <;> first | rfl | exact absurd rfl h

theorem mmPlace_of_not_pawn {T : Tables} {m : Move} {moved : Piece} (stm : Color) (ep0 : Option Sq) (r : Board)
    (hp : moved ≠ .pawn) (hc : mmCastles T m moved = false) : mmPlace T stm ep0 m moved r = r := by
  unfold mmPlace
  rw [if_neg hp, hc]
  rfl

theorem mmPlace_castle {T : Tables} {m : Move} (stm : Color) (ep0 : Option Sq) (r : Board)
    (hc : mmCastles T m .king = true) : mmPlace T stm ep0 m .king r =
      (r.xor T .rook (BB.ofSq (mkSq stm.backrank (Board.castleRookStart m.dst.getFile))) stm).xor T .rook
        (BB.ofSq (mkSq stm.backrank (Board.castleRookEnd m.dst.getFile))) stm := by
  unfold mmPlace
  rw [if_neg (by decide), hc]
  rfl

theorem mmPlace_promo {T : Tables} {m : Move} {q : Piece} (stm : Color) (ep0 : Option Sq) (r : Board)
    (hq : m.promo = some q) : mmPlace T stm ep0 m .pawn r =
      (r.xor T .pawn (BB.ofSq m.dst) stm).xor T q (BB.ofSq m.dst) stm := by
  unfold mmPlace
  rw [if_pos rfl, hq]

theorem mmPlace_pawn {T : Tables} {m : Move} (stm : Color) (ep0 : Option Sq) (r : Board) (hq : m.promo = none) :
    mmPlace T stm ep0 m .pawn r =
      if mmDbl T m then r.setEp T m.dst
      else if some (m.dst.ubackward stm) = ep0 then r.xor T .pawn (BB.ofSq (m.dst.ubackward stm)) stm.other
      else r := by
  unfold mmPlace
  rw [if_pos rfl, hq]

theorem mm2_eq (T : Tables) (stm : Color) (ep0 : Option Sq) (m : Move) (moved : Piece) (r : Board) :
    ∃ x, mm2 T stm ep0 m moved r = (mmPlace T stm ep0 m moved r).withCheckers x := by
  unfold mm2 mmPlace
  by_cases hk : moved = .knight
  · subst hk
    exact ⟨_, rfl⟩
  · rw [if_neg hk]
    by_cases hp : moved = .pawn
    · rw [if_pos hp, if_pos hp]
      cases m.promo with
      | some q => cases q <;> exact ⟨_, rfl⟩
      | none =>
        dsimp only
        by_cases hd : mmDbl T m
        · rw [if_pos hd, if_pos hd]
          exact ⟨_, rfl⟩
        · rw [if_neg hd, if_neg hd]
          by_cases he : some (m.dst.ubackward stm) = ep0
          · rw [if_pos he, if_pos he]
            exact ⟨_, rfl⟩
          · rw [if_neg he, if_neg he]
            exact ⟨_, rfl⟩
    · rw [if_neg hp, if_neg hp]
      by_cases hc : mmCastles T m moved = true
      · rw [if_pos hc]
        exact ⟨_, rfl⟩
      · rw [if_neg hc]
        exact ⟨_, rfl⟩

/-- an observation that no toggle and no `set_ep` changes is not changed by phase 2 -/
theorem mmPlace_inv {α : Type} {T : Tables} (f : Board → α) (hx : ∀ b p bb c, f (Board.xor T b p bb c) = f b)
    (he : ∀ b s, f (Board.setEp T b s) = f b) (stm : Color) (ep0 : Option Sq) (m : Move) (moved : Piece)
    (r : Board) : f (mmPlace T stm ep0 m moved r) = f r := by
  unfold mmPlace
  by_cases hp : moved = .pawn
  · rw [if_pos hp]
    cases m.promo with
    | some q => exact (hx ..).trans (hx ..)
    | none =>
      dsimp only
      by_cases hd : mmDbl T m
      · rw [if_pos hd, he]
      · rw [if_neg hd]
        by_cases h : some (m.dst.ubackward stm) = ep0
        · rw [if_pos h, hx]
        · rw [if_neg h]
  · rw [if_neg hp]
    by_cases hc : mmCastles T m moved = true
    · rw [if_pos hc, hx, hx]
    · rw [if_neg hc]

theorem mmPlace_stm (T : Tables) (stm : Color) (ep0 : Option Sq) (m : Move) (moved : Piece) (r : Board) :
    (mmPlace T stm ep0 m moved r).stm = r.stm :=
  mmPlace_inv Board.stm (xor_stm T) (setEp_stm T) ..

theorem mmPlace_castleRights (T : Tables) (stm : Color) (ep0 : Option Sq) (m : Move) (moved : Piece) (r : Board)
    (d : Color) : (mmPlace T stm ep0 m moved r).castleRights d = r.castleRights d :=
  castleRights_of_fields (mmPlace_inv Board.wcr (xor_wcr T) (setEp_wcr T) ..)
    (mmPlace_inv Board.bcr (xor_bcr T) (setEp_bcr T) ..) d

theorem mm2_fields (T : Tables) (stm : Color) (ep0 : Option Sq) (m : Move) (moved : Piece) (r : Board) :
    (mm2 T stm ep0 m moved r).stm = r.stm ∧ ∀ d, (mm2 T stm ep0 m moved r).castleRights d = r.castleRights d := by
  obtain ⟨x, e⟩ := mm2_eq T stm ep0 m moved r
  rw [e]
  exact ⟨mmPlace_stm .., mmPlace_castleRights T stm ep0 m moved r⟩

/-! ### phase 3, and the whole -/

theorem mm3_fields (T : Tables) (ksq : Sq) (r : Board) :
    (mm3 T ksq r).pl = r.pl ∧ (mm3 T ksq r).stm = r.stm.other ∧ (mm3 T ksq r).wcr = r.wcr ∧
    (mm3 T ksq r).bcr = r.bcr ∧ (mm3 T ksq r).ep = r.ep := ⟨rfl, rfl, rfl, rfl, rfl⟩

/-- `make_move_new` on an occupied source square: phase 1, the placement part of phase 2, the side flipped;
the cached fields aside -/
theorem makeMoveNew_some (T : Tables) (b : Board) (m : Move) (moved : Piece) (h : b.pieceOn m.src = some moved) :
    ∃ x y, b.makeMoveNew T m = some ((mmPlace T b.stm b.ep m moved (mm1 T b m moved)).finish x y) := by
  obtain ⟨x, e⟩ := mm2_eq T b.stm b.ep m moved (mm1 T b m moved)
  rw [makeMoveNew_eq, h]
  dsimp only
  rw [e]
  exact ⟨_, _, rfl⟩

end Chess
