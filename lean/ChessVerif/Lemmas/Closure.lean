import ChessVerif.Lemmas.Rules
import ChessVerif.Lemmas.BitBoard
/-
Closure of `Valid` under legal moves on the specification (property C05), the monotone quantities
(castling rights, men per side, pawns per side), the recording policy `norm`, and play along a history
(`playLegal`, `playLegalNorm`, `Reachable`, `MonoLE`), which C05 is stated with.
-/
namespace Chess
namespace Closure
open PinCheck (movedMan)
open PseudoBits (pawnStd epClause promoShape)
open EnPassant (predPos)

abbrev Bd := Sq → Option (Piece × Color)

/-! ### point updates, and quantities that are sums over the squares -/

def upd (b : Bd) (s : Sq) (v : Option (Piece × Color)) : Bd := fun x => if x = s then v else b x

@[simp] theorem upd_same (b : Bd) (s v) : upd b s v s = v := if_pos rfl
theorem upd_other (b : Bd) {s x : Sq} (v) (h : x ≠ s) : upd b s v x = b x := if_neg h

def bsum (w : Sq → Option (Piece × Color) → Nat) (b : Bd) : Nat := (allSq.map fun x => w x (b x)).sum

/-- a point update exchanges the contribution of that square -/
theorem bsum_upd (w) (b : Bd) (s : Sq) (v) : bsum w (upd b s v) + w s (b s) = bsum w b + w s v := by
  have hp : allSq.Perm (s :: allSq.erase s) := List.perm_cons_erase (List.mem_finRange s)
  have hx : ∀ x ∈ allSq.erase s, w x (upd b s v x) = w x (b x) := fun x hx =>
    congrArg (w x) (upd_other b v ((List.nodup_finRange 64).mem_erase_iff.mp hx).1)
  unfold bsum
  rw [(hp.map _).sum_nat, (hp.map _).sum_nat, List.map_cons, List.map_cons, List.sum_cons, List.sum_cons,
    upd_same, List.map_congr_left hx]
  omega

/-! Updates of distinct squares: the old contents of those squares go, the new ones come. -/

theorem bsum_upd2 (w) (b : Bd) {s₁ s₂ : Sq} (h₁₂ : s₁ ≠ s₂) (v₁ v₂) :
    bsum w (upd (upd b s₁ v₁) s₂ v₂) + w s₁ (b s₁) + w s₂ (b s₂) = bsum w b + w s₁ v₁ + w s₂ v₂ := by
  have e := bsum_upd w (upd b s₁ v₁) s₂ v₂
  rw [upd_other b _ h₁₂.symm] at e
  have := bsum_upd w b s₁ v₁
  omega

theorem bsum_upd3 (w) (b : Bd) {s₁ s₂ s₃ : Sq} (h₁₂ : s₁ ≠ s₂) (h₁₃ : s₁ ≠ s₃) (h₂₃ : s₂ ≠ s₃) (v₁ v₂ v₃) :
    bsum w (upd (upd (upd b s₁ v₁) s₂ v₂) s₃ v₃) + w s₁ (b s₁) + w s₂ (b s₂) + w s₃ (b s₃)
      = bsum w b + w s₁ v₁ + w s₂ v₂ + w s₃ v₃ := by
  have e := bsum_upd2 w (upd b s₁ v₁) h₂₃ v₂ v₃
  rw [upd_other b _ h₁₂.symm, upd_other b _ h₁₃.symm] at e
  have := bsum_upd w b s₁ v₁
  omega

theorem bsum_upd4 (w) (b : Bd) {s₁ s₂ s₃ s₄ : Sq} (h₁₂ : s₁ ≠ s₂) (h₁₃ : s₁ ≠ s₃) (h₁₄ : s₁ ≠ s₄) (h₂₃ : s₂ ≠ s₃)
    (h₂₄ : s₂ ≠ s₄) (h₃₄ : s₃ ≠ s₄) (v₁ v₂ v₃ v₄) :
    bsum w (upd (upd (upd (upd b s₁ v₁) s₂ v₂) s₃ v₃) s₄ v₄) + w s₁ (b s₁) + w s₂ (b s₂) + w s₃ (b s₃) + w s₄ (b s₄)
      = bsum w b + w s₁ v₁ + w s₂ v₂ + w s₃ v₃ + w s₄ v₄ := by
  have e := bsum_upd3 w (upd b s₁ v₁) h₂₃ h₂₄ h₃₄ v₂ v₃ v₄
  rw [upd_other b _ h₁₂.symm, upd_other b _ h₁₃.symm, upd_other b _ h₁₄.symm] at e
  have := bsum_upd w b s₁ v₁
  omega

def ind (f : Piece × Color → Bool) (v : Option (Piece × Color)) : Nat := if v.any f then 1 else 0

@[simp] theorem ind_none (f) : ind f none = 0 := rfl
@[simp] theorem ind_some (f) (v : Piece × Color) : ind f (some v) = if f v then 1 else 0 := rfl
theorem ind_le_one (f v) : ind f v ≤ 1 := by unfold ind; split <;> omega

theorem count_eq_bsum (p : Pos) (f) : count p f = bsum (fun _ => ind f) p.board := by
  unfold count bsum ind
  induction allSq with
  | nil => rfl
  | cons a l ih =>
    simp only [List.filter_cons, List.map_cons, List.sum_cons]
    split <;> simp only [List.length_cons, ih] <;> omega

/-! ### the board after a move, as point updates -/

theorem apply_upd_normal {p : Pos} {m : Move} (hep : isEnPassant p m = false) (hc : isCastle p m = false) :
    (apply p m).board = upd (upd p.board m.src none) m.dst (movedMan p m) :=
  funext (apply_board_plain hc hep)

theorem apply_upd_ep {p : Pos} {m : Move} {q : Sq} (hep : isEnPassant p m = true) (hc : isCastle p m = false)
    (hq : sq? m.dst.file m.src.rank = some q) :
    (apply p m).board = upd (upd (upd p.board q none) m.src none) m.dst (movedMan p m) :=
  funext (apply_board_ep hc hep hq)

theorem apply_upd_castle {p : Pos} {m : Move} {r t : Sq} (hep : isEnPassant p m = false) (hc : isCastle p m = true)
    (hr : homeSq p.stm (if m.dst.file > m.src.file then 7 else 0) = some r)
    (ht : homeSq p.stm (if m.dst.file > m.src.file then 5 else 3) = some t) :
    (apply p m).board =
      upd (upd (upd (upd p.board t (some (.rook, p.stm))) r none) m.src none) m.dst (movedMan p m) :=
  funext (apply_board_castle hc hep hr ht)

/-! ### classification of pseudo-legal moves -/

/-- what is known about a pawn move that is not an en-passant capture -/
structure PawnFacts (p : Pos) (m : Move) (pc' : Piece) : Prop where
  noLast : pc' = .pawn → m.dst.rank ≠ p.stm.lastRank
  step : m.dst.rank - m.src.rank = p.stm.fwd ∨
    (m.dst.rank - m.src.rank = 2 * p.stm.fwd ∧ m.src.rank = p.stm.pawnRank ∧ m.dst.file = m.src.file ∧
      p.board m.dst = none ∧ pc' = .pawn ∧
      ∃ x, sq? m.src.file (m.src.rank + p.stm.fwd) = some x ∧ p.board x = none)

inductive Shape (p : Pos) (m : Move) : Prop where
  | normal (pc pc' : Piece)
      (hsrc : p.board m.src = some (pc, p.stm))
      (hdst : ∀ x, p.board m.dst ≠ some (x, p.stm))
      (hne : m.src ≠ m.dst)
      (hpc : pc' = pc ∨ (pc = .pawn ∧ pc' ≠ .pawn ∧ pc' ≠ .king))
      (hatk : p.board m.dst ≠ none → attacks p m.src m.dst = true)
      (hpawn : pc = .pawn → PawnFacts p m pc')
      (hboard : (apply p m).board = upd (upd p.board m.src none) m.dst (some (pc', p.stm)))
  | ep (q : Sq) (pc' : Piece)
      (hsrc : p.board m.src = some (.pawn, p.stm))
      (hdst : p.board m.dst = none)
      (hq : p.board q = some (.pawn, p.stm.other))
      (hqs : q ≠ m.src) (hqd : q ≠ m.dst) (hne : m.src ≠ m.dst)
      (hpc : pc' ≠ .king)
      (hlast : pc' = .pawn → m.dst.rank ≠ p.stm.lastRank)
      (hdr : m.dst.rank - m.src.rank = p.stm.fwd)
      (hboard : (apply p m).board = upd (upd (upd p.board q none) m.src none) m.dst (some (pc', p.stm)))
  | castle (r t : Sq)
      (hsrc : p.board m.src = some (.king, p.stm))
      (hsrcr : m.src.rank = p.stm.homeRank) (hsrcf : m.src.file = 4)
      (hdst : p.board m.dst = none)
      (hr : p.board r = some (.rook, p.stm))
      (ht : p.board t = none)
      (hrr : r.rank = p.stm.homeRank) (htr : t.rank = p.stm.homeRank)
      (hrs : r ≠ m.src) (hrd : r ≠ m.dst) (hts : t ≠ m.src) (htd : t ≠ m.dst) (htr' : t ≠ r) (hne : m.src ≠ m.dst)
      (hboard : (apply p m).board =
        upd (upd (upd (upd p.board t (some (.rook, p.stm))) r none) m.src none) m.dst (some (.king, p.stm)))

theorem src_ne_dst {p : Pos} {m : Move} {pc : Piece} (hb : p.board m.src = some (pc, p.stm))
    (hd : ∀ x, p.board m.dst ≠ some (x, p.stm)) : m.src ≠ m.dst :=
  fun h => hd pc (h ▸ hb)

theorem shape_plain {p : Pos} {m : Move} {pc : Piece} (hb : p.board m.src = some (pc, p.stm))
    (hd : p.colorAt m.dst ≠ some p.stm) (hpc : pc ≠ .pawn) (hnc : isCastle p m = false)
    (ha : attacks p m.src m.dst = true) : Shape p m := by
  have hd' := colorAt_ne_iff.mp hd
  have hep := (not_pawn_flags hb hpc).1
  have hmv : movedMan p m = some (pc, p.stm) := by rw [movedMan_eq hb, finalMan, if_neg hpc]
  refine .normal pc pc hb hd' (src_ne_dst hb hd') (.inl rfl) (fun _ => ha) (fun h => absurd h hpc) ?_
  rw [apply_upd_normal hep hnc, hmv]

/-- on one rank, betweenness is betweenness of the files -/
theorem between_rank {a x b : Sq} {fa fx fb : Int} (ha : a.file = fa) (hx : x.file = fx) (hb : b.file = fb)
    (hxr : x.rank = a.rank) (hbr : b.rank = a.rank)
    (h : 0 < (fx - fa) * (fb - fa) ∧ (fx - fa) * (fx - fa) < (fb - fa) * (fb - fa)) :
    strictlyBetween a x b = true := by
  simp only [strictlyBetween, ha, hx, hb, hxr, hbr, Int.sub_self, Int.mul_zero, Int.zero_mul, Int.add_zero,
    beq_self_eq_true, Bool.or_true, Bool.true_or, Bool.true_and, Bool.and_eq_true, decide_eq_true_eq]
  exact h

/-- the geometry of a castling move: rook `r` in the corner, `t` the square the king passes -/
theorem castleOk_facts {p : Pos} {m : Move} {c : Color} (h : castleOk p m c = true) :
    m.src.rank = c.homeRank ∧ m.src.file = 4 ∧ m.dst.rank = m.src.rank ∧ ∃ r t : Sq,
      ((m.dst.file = 6 ∧ r.file = 7 ∧ t.file = 5) ∨ (m.dst.file = 2 ∧ r.file = 0 ∧ t.file = 3)) ∧
      r.rank = c.homeRank ∧ t.rank = c.homeRank ∧ p.board r = some (.rook, c) ∧ pathClear p m.src r = true := by
  simp only [castleOk, Bool.and_eq_true, beq_iff_eq] at h
  obtain ⟨⟨⟨⟨hsr, hsf⟩, hdr⟩, hdf⟩, -, hm⟩ := h
  have hdf : m.dst.file - m.src.file = 2 ∨ m.dst.file - m.src.file = -2 := by omega
  split at hm
  · rename_i r t hr ht
    simp only [Bool.and_eq_true, Pos.has, beq_iff_eq] at hm
    rw [sq?_eq_some] at hr ht
    refine ⟨hsr, hsf, by omega, r, t, ?_, hr.2, ht.2, hm.1.1.1.1, hm.1.1.1.2⟩
    rcases hdf with e | e
    · rw [e, if_pos rfl] at hr; rw [e] at ht; exact .inl (by omega)
    · rw [e, if_neg (by decide)] at hr; rw [e] at ht; exact .inr (by omega)
  · cases hm

theorem shape_king {p : Pos} {m : Move} (hb : p.board m.src = some (.king, p.stm))
    (hd : p.colorAt m.dst ≠ some p.stm) (h : (attacks p m.src m.dst || castleOk p m p.stm) = true) : Shape p m := by
  rcases Bool.or_eq_true_iff.mp h with h | h
  · refine shape_plain hb hd (by decide) ?_ h
    have := (king_attacks_near hb h).1
    exact eq_false_of_ne_true fun hc => by have := (isCastle_king hb).mp hc; omega
  · obtain ⟨hsr, hsf, hdr, r, t, hside, hrr, htr, hrk, hpath⟩ := castleOk_facts h
    have hrr' := hrr.trans hsr.symm
    have hbt : strictlyBetween m.src m.dst r = true ∧ strictlyBetween m.src t r = true := by
      rcases hside with hc | hc <;>
        exact ⟨between_rank hsf hc.1 hc.2.1 hdr hrr' (by decide),
          between_rank hsf hc.2.2 hc.2.1 (htr.trans hsr.symm) hrr' (by decide)⟩
    have hic : isCastle p m = true := (isCastle_king hb).mpr (by omega)
    have hep := (not_pawn_flags hb (by decide)).1
    have hmv : movedMan p m = some (.king, p.stm) := by simp only [movedMan, hb]
    have hR : homeSq p.stm (if m.dst.file > m.src.file then 7 else 0) = some r := by
      unfold homeSq; rw [sq?_eq_some]; split <;> omega
    have hT : homeSq p.stm (if m.dst.file > m.src.file then 5 else 3) = some t := by
      unfold homeSq; rw [sq?_eq_some]; split <;> omega
    have hne : ∀ {a b : Sq}, a.file ≠ b.file → a ≠ b := fun h e => h (e ▸ rfl)
    refine .castle r t hb hsr hsf (pathClear_empty hpath hbt.1) hrk (pathClear_empty hpath hbt.2) hrr htr
      (hne ?_) (hne ?_) (hne ?_) (hne ?_) (hne ?_) (hne ?_) (hmv ▸ apply_upd_castle hep hic hR hT)
    all_goals omega

theorem pawn_promo {p : Pos} {m : Move} {c : Color} (hb : p.board m.src = some (.pawn, c)) {d : Color}
    (h : promoShape d m.dst m.promo = true) :
    ∃ pc', movedMan p m = some (pc', c) ∧ (pc' = .pawn ∨ pc' ≠ .pawn ∧ pc' ≠ .king) ∧
      (pc' = .pawn ↔ m.dst.rank ≠ d.lastRank) := by
  unfold promoShape at h
  unfold movedMan
  rw [hb]
  cases hp : m.promo with
  | none =>
    refine ⟨.pawn, rfl, .inl rfl, iff_of_true rfl fun hl => ?_⟩
    rw [hp, if_pos (beq_iff_eq.mpr hl)] at h
    cases h
  | some q =>
    have hl : m.dst.rank = d.lastRank := by
      refine Classical.byContradiction fun hl => ?_
      rw [hp, if_neg (mt beq_iff_eq.mp hl)] at h
      cases h
    rw [hp, if_pos (beq_iff_eq.mpr hl)] at h
    have hq : q ≠ .pawn ∧ q ≠ .king := by revert h; cases q <;> decide
    exact ⟨q, rfl, .inr hq, iff_of_false hq.1 (not_not_intro hl)⟩

theorem shape_pawn {p : Pos} {m : Move} (hb : p.board m.src = some (.pawn, p.stm))
    (hd : p.colorAt m.dst ≠ some p.stm) (h : pawnOk p m p.stm = true) : Shape p m := by
  simp only [pawnOk, pawnStd, epClause, Bool.and_eq_true, Bool.or_eq_true, beq_iff_eq, Pos.empty,
    Option.isNone_iff_eq_none] at h
  obtain ⟨hpr, h⟩ := h
  obtain ⟨pc', hmv, hpc, hlast⟩ := pawn_promo hb hpr
  have hd' := colorAt_ne_iff.mp hd
  have hne := src_ne_dst hb hd'
  have hnc := isCastle_not_king hb (by decide)
  have hpc2 : pc' = .pawn ∨ (Piece.pawn = Piece.pawn ∧ pc' ≠ .pawn ∧ pc' ≠ .king) := hpc.imp_right fun h => ⟨rfl, h⟩
  -- a move along the file, or onto an occupied square, is not an en-passant capture
  have hep : m.dst.file - m.src.file = 0 ∨ p.board m.dst ≠ none → isEnPassant p m = false := fun h =>
    eq_false_of_ne_true fun e => h.elim (fun h => by have := ((isEnPassant_pawn hb).mp e).1; omega)
      fun h => h ((isEnPassant_pawn hb).mp e).2
  -- all but the en-passant capture have the normal shape
  have mk : (m.dst.file - m.src.file = 0 ∨ p.board m.dst ≠ none) →
      (p.board m.dst ≠ none → attacks p m.src m.dst = true) → PawnFacts p m pc' → Shape p m := fun h hatk hpf =>
    .normal .pawn pc' hb hd' hne hpc2 hatk (fun _ => hpf) (by rw [apply_upd_normal (hep h) hnc, hmv])
  rcases h with ((⟨⟨hf, hr⟩, he⟩ | ⟨⟨⟨⟨hf, hr⟩, hsr⟩, he⟩, hx⟩) | ⟨⟨hf, hr⟩, hcol⟩) | ⟨⟨⟨hf, hr⟩, he⟩, hx⟩
  · -- single step
    exact mk (.inl hf) (fun h => absurd he h) ⟨hlast.mp, .inl hr⟩
  · -- double step
    have hpawn : pc' = .pawn := hlast.mpr (by have := Color.ranks p.stm; omega)
    have hx' : ∃ x, sq? m.src.file (m.src.rank + p.stm.fwd) = some x ∧ p.board x = none := by
      split at hx
      · exact ⟨_, ‹_›, Option.isNone_iff_eq_none.mp hx⟩
      · cases hx
    exact mk (.inl hf) (fun h => absurd he h) ⟨hlast.mp, .inr ⟨hr, hsr, by omega, he, hpawn, hx'⟩⟩
  · -- capture
    have hne' : p.board m.dst ≠ none := fun h0 => by rw [Pos.colorAt, h0] at hcol; cases hcol
    refine mk (.inr hne') (fun _ => ?_) ⟨hlast.mp, .inl hr⟩
    simp only [attacks, hb, hr, hf, beq_self_eq_true, Bool.and_self]
  · -- en passant
    split at hx
    · rename_i q hq
      simp only [Bool.and_eq_true, beq_iff_eq, Pos.has] at hx
      have hep : isEnPassant p m = true := (isEnPassant_pawn hb).mpr ⟨by omega, he⟩
      have hqs : q ≠ m.src := fun e => by
        rw [e, hb, Option.some.injEq, Prod.mk.injEq] at hx
        exact Color.other_ne _ hx.2.2.symm
      have hqd : q ≠ m.dst := fun e => by rw [e, he] at hx; cases hx.2
      refine .ep q pc' hb he hx.2 hqs hqd hne (hpc.elim (· ▸ by decide) And.right) hlast.mp hr ?_
      rw [apply_upd_ep hep hnc hq, hmv]
    · cases hx

theorem pseudoLegal_shape {p : Pos} {m : Move} (h : pseudoLegal p m = true) : Shape p m := by
  rw [pseudoLegal_eq] at h
  split at h
  · cases h
  · rename_i pc c' hb
    simp only [Bool.and_eq_true, beq_iff_eq, bne_iff_ne] at h
    obtain ⟨⟨hc, hd⟩, h⟩ := h
    subst hc
    split at h
    · exact shape_pawn hb hd h
    · exact shape_king hb hd (Bool.and_eq_true_iff.mp h).2
    · rename_i hp hk
      exact shape_plain hb hd hp (isCastle_not_king hb hk) (Bool.and_eq_true_iff.mp h).2

/-! ### counting across a move -/

/-- The master counting equation: a move takes the mover's man `(pc, stm)` away, puts `(pc', stm)` down
(`pc' = pc` unless promoting) and removes the captured man `cap` (never of the mover's colour; if it is
a king then it stood on the destination and was attacked by the moved man). -/
theorem count_apply {p : Pos} {m : Move} (hs : Shape p m) :
    ∃ (pc pc' : Piece) (cap : Option (Piece × Color)),
      p.board m.src = some (pc, p.stm) ∧
      (pc' = pc ∨ (pc = .pawn ∧ pc' ≠ .pawn ∧ pc' ≠ .king)) ∧
      (∀ x, cap ≠ some (x, p.stm)) ∧
      (∀ c, cap = some (.king, c) → p.board m.dst = some (.king, c) ∧ attacks p m.src m.dst = true) ∧
      ∀ f, count (apply p m) f + ind f (some (pc, p.stm)) + ind f cap = count p f + ind f (some (pc', p.stm)) := by
  cases hs with
  | normal pc pc' hsrc hdst hne hpc hatk hpawn hboard =>
    refine ⟨pc, pc', p.board m.dst, hsrc, hpc, hdst, fun c hc => ⟨hc, hatk (hc ▸ nofun)⟩, fun f => ?_⟩
    have := bsum_upd2 (fun _ => ind f) p.board hne none (some (pc', p.stm))
    rw [← hboard, ← count_eq_bsum, ← count_eq_bsum, hsrc] at this
    exact this
  | ep q pc' hsrc hdst hq hqs hqd hne hpc hlast hdr hboard =>
    refine ⟨.pawn, pc', some (.pawn, p.stm.other), hsrc, ?_, ?_, nofun, fun f => ?_⟩
    · cases pc' <;> simp at hpc ⊢
    · exact fun x hx => Color.other_ne _ (Prod.mk.inj (Option.some.inj hx)).2
    · have := bsum_upd3 (fun _ => ind f) p.board hqs hqd hne none none (some (pc', p.stm))
      rw [← hboard, ← count_eq_bsum, ← count_eq_bsum, hsrc, hdst, hq] at this
      have := ind_none f
      omega
  | castle r t hsrc hsrcr hsrcf hdst hr ht hrr htr hrs hrd hts htd htr' hne hboard =>
    refine ⟨.king, .king, none, hsrc, .inl rfl, nofun, nofun, fun f => ?_⟩
    have := bsum_upd4 (fun _ => ind f) p.board htr' hts htd hrs hrd hne (some (.rook, p.stm)) none none
      (some (.king, p.stm))
    rw [← hboard, ← count_eq_bsum, ← count_eq_bsum, hsrc, hdst, hr, ht] at this
    have := ind_none f
    omega

theorem men_shrink {p : Pos} {m : Move} (h : pseudoLegal p m = true) (c : Color) :
    count (apply p m) (·.2 == c) ≤ count p (·.2 == c) := by
  obtain ⟨pc, pc', cap, _, _, _, _, he⟩ := count_apply (pseudoLegal_shape h)
  have := he (·.2 == c)
  simp only [ind_some] at this
  omega

theorem pawns_shrink {p : Pos} {m : Move} (h : pseudoLegal p m = true) (c : Color) :
    count (apply p m) (· == (.pawn, c)) ≤ count p (· == (.pawn, c)) := by
  obtain ⟨pc, pc', cap, _, hpc, _, _, he⟩ := count_apply (pseudoLegal_shape h)
  have := he (· == (.pawn, c))
  rcases hpc with hpc | ⟨_, hpc, _⟩
  · subst hpc; omega
  · have : ind (· == (Piece.pawn, c)) (some (pc', p.stm)) = 0 := by
      simp only [ind_some, beq_iff_eq, Prod.mk.injEq, hpc, false_and, if_false]
    omega

/-- the moved man is a king after the move exactly if it was one before: no promotion to a king -/
theorem ind_king_moved {pc pc' : Piece} (hpc : pc' = pc ∨ (pc = .pawn ∧ pc' ≠ .pawn ∧ pc' ≠ .king)) (c d : Color) :
    ind (· == (Piece.king, c)) (some (pc', d)) = ind (· == (Piece.king, c)) (some (pc, d)) := by
  rcases hpc with rfl | ⟨rfl, _, h⟩
  · rfl
  · simp only [ind_some, beq_iff_eq, Prod.mk.injEq, h, reduceCtorEq, false_and, if_false]

theorem kings_le {p : Pos} {m : Move} (h : pseudoLegal p m = true) (c : Color) :
    count (apply p m) (· == (.king, c)) ≤ count p (· == (.king, c)) := by
  obtain ⟨pc, pc', cap, _, hpc, _, _, he⟩ := count_apply (pseudoLegal_shape h)
  have := he (· == (.king, c))
  rw [ind_king_moved hpc] at this
  omega

theorem kings_eq {p : Pos} {m : Move} (h : pseudoLegal p m = true)
    (hk : ∀ c, p.board m.dst = some (.king, c) → attacks p m.src m.dst = false) (c : Color) :
    count (apply p m) (· == (.king, c)) = count p (· == (.king, c)) := by
  obtain ⟨pc, pc', cap, _, hpc, _, hcap, he⟩ := count_apply (pseudoLegal_shape h)
  have := he (· == (.king, c))
  rw [ind_king_moved hpc] at this
  have : ind (· == (Piece.king, c)) cap = 0 := by
    unfold ind
    refine if_neg fun hc => ?_
    obtain ⟨v, rfl, hv⟩ := (Option.any_eq_true _ _).mp hc
    obtain ⟨h1, h2⟩ := hcap c (by rw [beq_iff_eq.mp hv])
    exact absurd h2 (by rw [hk c h1]; decide)
  omega

/-! ### `Valid` as a proposition -/

structure ValidP (p : Pos) : Prop where
  king : ∀ c, count p (· == (.king, c)) = 1
  men : ∀ c, count p (·.2 == c) ≤ 16
  pawns : ∀ c, count p (· == (.pawn, c)) ≤ 8
  ck : ∀ c, p.castleK c = true →
    (homeSq c 4).any (p.has · .king c) = true ∧ (homeSq c 7).any (p.has · .rook c) = true
  cq : ∀ c, p.castleQ c = true →
    (homeSq c 4).any (p.has · .king c) = true ∧ (homeSq c 0).any (p.has · .rook c) = true
  noPawn : ∀ s, (p.board s).any (·.1 == .pawn) = true → s.rank ≠ 0 ∧ s.rank ≠ 7
  notInCheck : inCheck p p.stm.other = false
  ep : epValid p = true

theorem not_or_eq_true {a b : Bool} : (!a || b) = true ↔ (a = true → b = true) := by
  cases a <;> simp

theorem valid_iff (p : Pos) : Valid p = true ↔ ValidP p := by
  rw [Valid_eq, show [Color.white, Color.black] = allColors from rfl]
  simp only [Bool.and_eq_true, allColors_all]
  simp only [validSide, pawnsOk, List.all_eq_true, Bool.and_eq_true, beq_iff_eq, decide_eq_true_eq, not_or_eq_true,
    Bool.not_eq_true', bne_iff_ne, ne_eq]
  exact ⟨fun ⟨⟨⟨h, hp⟩, hc⟩, he⟩ => ⟨fun c => (h c).1.1.1.1, fun c => (h c).1.1.1.2, fun c => (h c).1.1.2,
      fun c => (h c).1.2, fun c => (h c).2, fun s => hp s (List.mem_finRange s), hc, he⟩,
    fun h => ⟨⟨⟨fun c => ⟨⟨⟨⟨h.king c, h.men c⟩, h.pawns c⟩, h.ck c⟩, h.cq c⟩, fun s _ => h.noPawn s⟩,
      h.notInCheck⟩, h.ep⟩⟩

/-! ### check depends only on the board; the king square -/

theorem attacks_congr {p q : Pos} (h : p.board = q.board) (a b : Sq) : attacks p a b = attacks q a b := by
  simp only [attacks, slides, pathClear, Pos.empty, h]

theorem attackedBy_congr {p q : Pos} (h : p.board = q.board) (c : Color) (t : Sq) :
    attackedBy p c t = attackedBy q c t := by
  simp only [attackedBy, Pos.colorAt, attacks_congr h, h]

theorem kingSq?_congr {p q : Pos} (h : p.board = q.board) (c : Color) : kingSq? p c = kingSq? q c := by
  simp only [kingSq?, Pos.has, h]

theorem inCheck_congr {p q : Pos} (h : p.board = q.board) (c : Color) : inCheck p c = inCheck q c := by
  simp only [inCheck, kingSq?_congr h, attackedBy_congr h]

theorem king_unique {p : Pos} {c : Color} (h1 : count p (· == (.king, c)) ≤ 1) {a b : Sq}
    (ha : p.board a = some (.king, c)) (hb : p.board b = some (.king, c)) : a = b := by
  refine Classical.byContradiction fun hab => ?_
  have := bsum_upd2 (fun _ => ind (· == (.king, c))) p.board hab none none
  rw [← count_eq_bsum, ha, hb] at this
  simp only [ind_some, ind_none, beq_self_eq_true, if_true] at this
  omega

theorem kingSq?_of_unique {p : Pos} {c : Color} {s : Sq} (h1 : count p (· == (.king, c)) = 1)
    (hs : p.board s = some (.king, c)) : kingSq? p c = some s := by
  unfold kingSq?
  cases hf : allSq.find? (fun s => p.has s .king c) with
  | none => exact absurd (beq_iff_eq.mpr hs) (List.find?_eq_none.mp hf s (List.mem_finRange s))
  | some k =>
    have hk := List.find?_some hf
    rw [king_unique (Nat.le_of_eq h1) (beq_iff_eq.mp hk) hs]

theorem inCheck_of_attack {p : Pos} {c : Color} {a k : Sq} {pc : Piece}
    (h1 : count p (· == (.king, c)) = 1) (hk : p.board k = some (.king, c))
    (ha : p.board a = some (pc, c.other)) (hatk : attacks p a k = true) : inCheck p c = true := by
  unfold inCheck
  rw [kingSq?_of_unique h1 hk]
  exact List.any_eq_true.mpr ⟨a, List.mem_finRange a, by rw [Pos.colorAt, ha, hatk]; simp⟩

/-! ### the clauses of `Valid` after a move -/

/-- the man on the destination square is the mover's; if it is a pawn, a pawn made a step forward and
did not reach the last rank -/
theorem Shape.dst {p : Pos} {m : Move} (hs : Shape p m) :
    ∃ pc', (apply p m).board m.dst = some (pc', p.stm) ∧ (pc' = .pawn →
      p.board m.src = some (.pawn, p.stm) ∧ m.dst.rank ≠ p.stm.lastRank ∧
      (m.dst.rank - m.src.rank = p.stm.fwd ∨
        m.dst.rank - m.src.rank = 2 * p.stm.fwd ∧ m.src.rank = p.stm.pawnRank)) := by
  cases hs with
  | normal pc pc' hsrc hdst hne hpc hatk hpawn hboard =>
    refine ⟨pc', by rw [hboard, upd_same], fun e => ?_⟩
    have hpc : pc = .pawn := hpc.elim (fun h => h ▸ e) And.left
    obtain ⟨hl, hstep⟩ := hpawn hpc
    exact ⟨hpc ▸ hsrc, hl e, hstep.imp_right fun h => ⟨h.1, h.2.1⟩⟩
  | ep q pc' hsrc hdst hq hqs hqd hne hpc hlast hdr hboard =>
    exact ⟨pc', by rw [hboard, upd_same], fun e => ⟨hsrc, hlast e, .inl hdr⟩⟩
  | castle r t hsrc hsrcr hsrcf hdst hr ht hrr htr hrs hrd hts htd htr' hne hboard =>
    exact ⟨.king, by rw [hboard, upd_same], nofun⟩

/-- away from source and destination a move changes nothing, except that an en-passant capture empties
the square of an enemy pawn and castling moves the rook along the mover's home rank -/
theorem Shape.board_other {p : Pos} {m : Move} (hs : Shape p m) {s : Sq} (h1 : s ≠ m.src) (h2 : s ≠ m.dst) :
    (apply p m).board s = p.board s ∨
    (p.board s = some (.pawn, p.stm.other) ∧ (apply p m).board s = none) ∨
    (m.src.rank = p.stm.homeRank ∧ m.src.file = 4 ∧ s.rank = p.stm.homeRank ∧
      ∀ x, (apply p m).board s = some x → x = (.rook, p.stm)) := by
  cases hs with
  | normal pc pc' hsrc hdst hne hpc hatk hpawn hboard =>
    exact .inl (by rw [hboard, upd_other _ _ h2, upd_other _ _ h1])
  | ep q pc' hsrc hdst hq hqs hqd hne hpc hlast hdr hboard =>
    rw [hboard, upd_other _ _ h2, upd_other _ _ h1]
    by_cases e : s = q
    · subst e; exact .inr (.inl ⟨hq, upd_same ..⟩)
    · exact .inl (upd_other _ _ e)
  | castle r t hsrc hsrcr hsrcf hdst hr ht hrr htr hrs hrd hts htd htr' hne hboard =>
    rw [hboard, upd_other _ _ h2, upd_other _ _ h1]
    by_cases e : s = r
    · subst e; exact .inr (.inr ⟨hsrcr, hsrcf, hrr, by rw [upd_same]; nofun⟩)
    · rw [upd_other _ _ e]
      by_cases e : s = t
      · subst e; exact .inr (.inr ⟨hsrcr, hsrcf, htr, by rw [upd_same]; exact fun x hx => (Option.some.inj hx).symm⟩)
      · exact .inl (upd_other _ _ e)

theorem apply_board_src (p : Pos) {m : Move} (h : m.src ≠ m.dst) : (apply p m).board m.src = none := by
  rw [apply_board, if_neg (mt beq_iff_eq.mp h), if_pos (beq_self_eq_true _)]

/-- no king is captured: in a valid position a pseudo-legal move never lands on a king. -/
theorem no_king_capture {p : Pos} {m : Move} (hv : ValidP p) (h : pseudoLegal p m = true) (c : Color) :
    p.board m.dst = some (.king, c) → attacks p m.src m.dst = false := by
  intro hk
  obtain ⟨pc, hsrc, hdst⟩ := pseudoLegal_src h
  have hc : c = p.stm.other := Color.eq_other_of_ne fun e => colorAt_ne_iff.mp hdst .king (e ▸ hk)
  subst hc
  refine Bool.eq_false_iff.mpr fun hatk => ?_
  have := inCheck_of_attack (hv.king _) hk (by rwa [Color.other_other]) hatk
  rw [hv.notInCheck] at this
  cases this

theorem step_kings {p : Pos} {m : Move} (hv : ValidP p) (h : pseudoLegal p m = true) (c : Color) :
    count (apply p m) (· == (.king, c)) = 1 :=
  (kings_eq h (no_king_capture hv h) c).trans (hv.king c)

/-- no pawn on the first or last rank after the move -/
theorem step_noPawn {p : Pos} {m : Move} (hv : ValidP p) (h : pseudoLegal p m = true) (s : Sq)
    (hs : ((apply p m).board s).any (·.1 == .pawn) = true) : s.rank ≠ 0 ∧ s.rank ≠ 7 := by
  have sh := pseudoLegal_shape h
  by_cases h2 : s = m.dst
  · subst h2
    obtain ⟨pc', hd, hp⟩ := sh.dst
    rw [hd] at hs
    obtain ⟨hsrc, hl, hstep⟩ := hp (beq_iff_eq.mp hs)
    have := hv.noPawn m.src (by rw [hsrc]; rfl)
    have := Color.ranks p.stm
    have := Sq.coord_bounds m.src
    omega
  · by_cases h1 : s = m.src
    · rw [h1, apply_board_src p (pseudoLegal_ne h)] at hs
      cases hs
    · rcases sh.board_other h1 h2 with e | ⟨_, e⟩ | ⟨_, _, _, e⟩
      · exact hv.noPawn s (e ▸ hs)
      · rw [e] at hs; cases hs
      · obtain ⟨x, hx, hp⟩ := (Option.any_eq_true _ _).mp hs
        rw [e x hx] at hp
        cases hp

/-- a castling right survives a move if it was there and the move touches neither the king's nor the
rook's home square -/
theorem right_kept {a : Bool} {m : Move} {x y : Option Sq} : (a && !touched m x && !touched m y) = true ↔
    a = true ∧ (x ≠ some m.src ∧ x ≠ some m.dst) ∧ y ≠ some m.src ∧ y ≠ some m.dst := by
  simp only [touched, Bool.and_eq_true, Bool.not_eq_true', Bool.or_eq_false_iff, beq_eq_false_iff_ne, ne_eq,
    and_assoc]

theorem rights_shrinkK {p : Pos} {m : Move} {c : Color} (h : (apply p m).castleK c = true) : p.castleK c = true :=
  (right_kept.mp (apply_castleK p m c ▸ h)).1
theorem rights_shrinkQ {p : Pos} {m : Move} {c : Color} (h : (apply p m).castleQ c = true) : p.castleQ c = true :=
  (right_kept.mp (apply_castleQ p m c ▸ h)).1

/-- a man (not a pawn) on a home-rank square of colour `d` that is neither source nor destination
stays, provided the move does not start on `d`'s king home square -/
theorem home_preserved {p : Pos} {m : Move} (hs : Shape p m) {d : Color} {f : Int} {pc : Piece}
    (hk : homeSq d 4 ≠ some m.src) (h1 : homeSq d f ≠ some m.src) (h2 : homeSq d f ≠ some m.dst)
    (hpc : pc ≠ .pawn) (hb : (homeSq d f).any (p.has · pc d) = true) :
    (homeSq d f).any ((apply p m).has · pc d) = true := by
  obtain ⟨s, hh, hb⟩ := (Option.any_eq_true _ _).mp hb
  rw [hh] at h1 h2 ⊢
  have hb := beq_iff_eq.mp hb
  refine beq_iff_eq.mpr ?_
  rcases hs.board_other (fun e => h1 (e ▸ rfl)) (fun e => h2 (e ▸ rfl)) with e | ⟨e, _⟩ | ⟨hr, hf, hsr, _⟩
  · rw [e, hb]
  · rw [hb] at e; exact absurd (Prod.mk.inj (Option.some.inj e)).1 hpc
  · -- castling: `s` is on the home rank of both colours, so `d` is the mover, whose king is on its home square
    have hsr' := (sq?_eq_some.mp hh).2
    have hd : d = p.stm := homeRank_inj (hsr'.symm.trans hsr)
    exact absurd (sq?_eq_some.mpr ⟨hf, hd ▸ hr⟩) hk

/-- a castling right left by the move (`a` is the right before, `f` the rook's file) remains backed by
king and rook on their home squares -/
theorem step_right {p : Pos} {m : Move} (hs : Shape p m) {d : Color} {f : Int} {a : Bool}
    (hc : (a && !touched m (homeSq d 4) && !touched m (homeSq d f)) = true)
    (hb : a = true → (homeSq d 4).any (p.has · .king d) = true ∧ (homeSq d f).any (p.has · .rook d) = true) :
    (homeSq d 4).any ((apply p m).has · .king d) = true ∧ (homeSq d f).any ((apply p m).has · .rook d) = true := by
  obtain ⟨h0, ⟨h1, h2⟩, h3, h4⟩ := right_kept.mp hc
  exact ⟨home_preserved hs h1 h1 h2 (by decide) (hb h0).1, home_preserved hs h1 h3 h4 (by decide) (hb h0).2⟩

/-- the en-passant mark set by `apply` satisfies `epValid`: putting the pawn back gives the board of `p` -/
theorem step_ep {p : Pos} {m : Move} (hv : ValidP p) (h : pseudoLegal p m = true) :
    epValid (apply p m) = true := by
  rw [epValid_eq, apply_ep]
  cases hds : isDoubleStep p m with
  | false => rfl
  | true =>
    simp only [isDoubleStep, Bool.and_eq_true, beq_iff_eq] at hds
    obtain ⟨hpw, hdr2⟩ := hds
    have hfw := fwd_cases p.stm
    cases pseudoLegal_shape h with
    | ep q pc' hsrc hdst hq hqs hqd hne hpc hlast hdr hboard => omega
    | castle r t hsrc => rw [hsrc] at hpw; cases hpw
    | normal pc pc' hsrc hdst hne hpc hatk hpawn hboard =>
      have hpc0 : pc = .pawn := by rw [hsrc] at hpw; cases pc <;> first | rfl | cases hpw
      subst hpc0
      rcases (hpawn rfl).step with hstep | ⟨hdr, hsr, hfile, hdn, hpc', x, hx, hxe⟩
      · omega
      subst hpc'
      have hx' := sq?_eq_some.mp hx
      have h1 : sq? m.dst.file (m.dst.rank - p.stm.fwd) = some x := sq?_eq_some.mpr (by omega)
      have h2 : sq? m.dst.file p.stm.pawnRank = some m.src := sq?_eq_some.mpr (by omega)
      have hxs : x ≠ m.src := fun e => by rw [e] at hx'; omega
      have hxd : x ≠ m.dst := fun e => by rw [e] at hx'; omega
      have hB : (predPos (apply p m) m.dst m.src).board = p.board := by
        funext s
        show (if s == m.src then some (.pawn, p.stm.other.other) else if s == m.dst then none
          else (apply p m).board s) = p.board s
        by_cases e1 : s = m.src
        · rw [if_pos (beq_iff_eq.mpr e1), e1, hsrc, Color.other_other]
        · by_cases e2 : s = m.dst
          · rw [if_neg (mt beq_iff_eq.mp e1), if_pos (beq_iff_eq.mpr e2), e2, hdn]
          · rw [if_neg (mt beq_iff_eq.mp e1), if_neg (mt beq_iff_eq.mp e2), hboard, upd_other _ _ e2,
              upd_other _ _ e1]
      have hstm : (apply p m).stm.other = p.stm := Color.other_other _
      have b1 : (apply p m).has m.dst .pawn p.stm = true := by
        rw [Pos.has, hboard, upd_same]; exact beq_self_eq_true _
      have b2 : (m.dst.rank == p.stm.pawnRank + 2 * p.stm.fwd) = true := beq_iff_eq.mpr (by omega)
      have b3 : (apply p m).empty x = true := by rw [Pos.empty, hboard, upd_other _ _ hxd, upd_other _ _ hxs, hxe]; rfl
      have b4 : (apply p m).empty m.src = true := by rw [Pos.empty, hboard, upd_other _ _ hne, upd_same]; rfl
      have b5 : inCheck (predPos (apply p m) m.dst m.src) (apply p m).stm = false :=
        (inCheck_congr hB _).trans hv.notInCheck
      simp only [if_true, hstm, h1, h2, b1, b2, b3, b4, b5, Bool.not_false, Bool.and_self]

/-- all clauses together; the bounds on men and pawns survive because the counts never grow,
the mover is not in check afterwards by the definition of `legal` -/
theorem validP_step {p : Pos} {m : Move} (hv : ValidP p) (hl : legal p m = true) : ValidP (apply p m) := by
  obtain ⟨hpl, hchk⟩ := Bool.and_eq_true_iff.mp hl
  have hs := pseudoLegal_shape hpl
  exact ⟨step_kings hv hpl, fun c => Nat.le_trans (men_shrink hpl c) (hv.men c),
    fun c => Nat.le_trans (pawns_shrink hpl c) (hv.pawns c),
    fun d hc => step_right hs (apply_castleK p m d ▸ hc) (hv.ck d),
    fun d hc => step_right hs (apply_castleQ p m d ▸ hc) (hv.cq d), step_noPawn hv hpl,
    (congrArg _ (Color.other_other _)).trans ((Bool.not_eq_true' _).mp hchk), step_ep hv hpl⟩

/-! ### the recording policy `norm` -/

@[simp] theorem norm_board (p : Pos) : (norm p).board = p.board := rfl
@[simp] theorem norm_stm (p : Pos) : (norm p).stm = p.stm := rfl
@[simp] theorem norm_castleK (p : Pos) : (norm p).castleK = p.castleK := rfl
@[simp] theorem norm_castleQ (p : Pos) : (norm p).castleQ = p.castleQ := rfl

theorem epValid_norm {p : Pos} (h : epValid p = true) : epValid (norm p) = true := by
  unfold epValid at h ⊢
  rw [norm_ep]
  cases he : p.ep with
  | none => rfl
  | some q =>
    dsimp only
    cases normKeep p q
    · rfl
    · rwa [he] at h

theorem validP_norm {p : Pos} (hv : ValidP p) : ValidP (norm p) :=
  ⟨hv.king, hv.men, hv.pawns, hv.ck, hv.cq, hv.noPawn,
    (inCheck_congr (norm_board p) _).trans hv.notInCheck, epValid_norm hv.ep⟩

/-- passing the move (`null_move`): allowed when the mover is not in check -/
theorem validP_null {p : Pos} (hv : ValidP p) (hnc : inCheck p p.stm = false) :
    ValidP { p with stm := p.stm.other, ep := none } :=
  ⟨hv.king, hv.men, hv.pawns, hv.ck, hv.cq, hv.noPawn,
    (congrArg _ (Color.other_other _)).trans ((inCheck_congr rfl _).trans hnc), rfl⟩

theorem apply_norm (p : Pos) (m : Move) : apply (norm p) m = apply p m := rfl

/-- the mark matters only for an en-passant capture, which needs a pawn of the side to move beside the
marked pawn: exactly when `norm` keeps the mark -/
theorem norm_ep_beq {p : Pos} {m : Move} {q : Sq} (hb : p.board m.src = some (.pawn, p.stm))
    (hf : (m.dst.file - m.src.file).natAbs = 1) (hq : sq? m.dst.file m.src.rank = some q) :
    ((norm p).ep == some q) = (p.ep == some q) := by
  rw [norm_ep]
  cases he : p.ep with
  | none => rfl
  | some e =>
    dsimp only
    by_cases heq : e = q
    · subst heq
      have hq' := sq?_eq_some.mp hq
      rw [if_pos]
      refine List.any_eq_true.mpr ⟨m.src, List.mem_finRange _, ?_⟩
      simp only [Bool.and_eq_true, beq_iff_eq, Pos.has, hb, and_true]
      omega
    · cases normKeep p e
      · exact (beq_eq_false_iff_ne.mpr (mt Option.some.inj heq)).symm
      · rfl

theorem pseudoLegal_norm (p : Pos) (m : Move) : pseudoLegal (norm p) m = pseudoLegal p m := by
  have hc : castleOk (norm p) m p.stm = castleOk p m p.stm := rfl
  rw [pseudoLegal_eq, pseudoLegal_eq, norm_board, norm_stm, hc]
  simp only [attacks_congr (norm_board p)]
  cases hb : p.board m.src with
  | none => rfl
  | some x =>
    obtain ⟨k, c'⟩ := x
    cases k with
    | pawn =>
      dsimp only
      by_cases hc : c' = p.stm
      · subst hc
        refine congrArg _ ?_
        simp only [pawnOk, epClause]
        cases hF : (m.dst.file - m.src.file).natAbs == 1
        · rfl
        · cases hq : sq? m.dst.file m.src.rank with
          | none => rfl
          | some q => simp only [norm_ep_beq hb (beq_iff_eq.mp hF) hq]; rfl
      · rw [beq_false_of_ne hc]; rfl
    | _ => rfl

/-- Legality does not see whether the en-passant mark was recorded by the library's policy. -/
theorem legal_norm (p : Pos) (m : Move) : legal (norm p) m = legal p m := by
  unfold legal
  rw [pseudoLegal_norm, apply_norm, norm_stm]

theorem norm_norm (p : Pos) : norm (norm p) = norm p := by
  have : (norm (norm p)).ep = (norm p).ep := by
    rw [norm_ep (norm p), norm_ep p]
    cases p.ep with
    | none => rfl
    | some q =>
      dsimp only
      cases h : normKeep p q
      · rfl
      · exact if_pos h
  calc norm (norm p) = { norm p with ep := (norm (norm p)).ep } := rfl
    _ = norm p := by rw [this]

end Closure

/-! ### histories -/

def playLegal (p : Pos) : List Move → Option Pos
  | [] => some p
  | m :: ms => if legal p m then playLegal (apply p m) ms else none

/-- the same history as the library holds it: after every move the en-passant mark is recorded by the
library's policy `norm` -/
def playLegalNorm (p : Pos) : List Move → Option Pos
  | [] => some p
  | m :: ms => if legal p m then playLegalNorm (norm (apply p m)) ms else none

def Reachable (p q : Pos) : Prop := ∃ ms, playLegal p ms = some q

/-- the monotone quantities of C05: `q` has no castling right, no more men and no more pawns than `p` -/
structure MonoLE (q p : Pos) : Prop where
  castleK : ∀ c, q.castleK c = true → p.castleK c = true
  castleQ : ∀ c, q.castleQ c = true → p.castleQ c = true
  men : ∀ c, count q (·.2 == c) ≤ count p (·.2 == c)
  pawns : ∀ c, count q (· == (.pawn, c)) ≤ count p (· == (.pawn, c))

namespace Closure

theorem playLegal_rel {R : Pos → Pos → Prop} (hr : ∀ p, R p p)
    (hs : ∀ {p m q}, legal p m = true → R (apply p m) q → R p q) {p q : Pos} {ms : List Move}
    (h : playLegal p ms = some q) : R p q := by
  induction ms generalizing p with
  | nil => cases h; exact hr _
  | cons m ms ih =>
    rw [playLegal] at h
    split at h
    · exact hs ‹_› (ih h)
    · cases h

theorem playLegalNorm_rel {R : Pos → Pos → Prop} (hr : ∀ p, R p p)
    (hs : ∀ {p m q}, legal p m = true → R (norm (apply p m)) q → R p q) {p q : Pos} {ms : List Move}
    (h : playLegalNorm p ms = some q) : R p q := by
  induction ms generalizing p with
  | nil => cases h; exact hr _
  | cons m ms ih =>
    rw [playLegalNorm] at h
    split at h
    · exact hs ‹_› (ih h)
    · cases h

theorem MonoLE.refl (p : Pos) : MonoLE p p := ⟨fun _ h => h, fun _ h => h, fun _ => Nat.le_refl _, fun _ => Nat.le_refl _⟩

theorem MonoLE.trans {a b c : Pos} (h1 : MonoLE a b) (h2 : MonoLE b c) : MonoLE a c :=
  ⟨fun d h => h2.castleK d (h1.castleK d h), fun d h => h2.castleQ d (h1.castleQ d h),
   fun d => Nat.le_trans (h1.men d) (h2.men d), fun d => Nat.le_trans (h1.pawns d) (h2.pawns d)⟩

theorem monoLE_step {p : Pos} {m : Move} (h : pseudoLegal p m = true) : MonoLE (apply p m) p :=
  ⟨fun _ => rights_shrinkK, fun _ => rights_shrinkQ, men_shrink h, pawns_shrink h⟩

theorem playLegal_validP {p q : Pos} {ms : List Move} (hv : ValidP p) (h : playLegal p ms = some q) : ValidP q :=
  playLegal_rel (R := fun p q => ValidP p → ValidP q) (fun _ => id) (fun hl ih hv => ih (validP_step hv hl)) h hv

theorem playLegalNorm_validP {p q : Pos} {ms : List Move} (hv : ValidP p) (h : playLegalNorm p ms = some q) :
    ValidP q :=
  playLegalNorm_rel (R := fun p q => ValidP p → ValidP q) (fun _ => id)
    (fun hl ih hv => ih (validP_norm (validP_step hv hl))) h hv

theorem playLegal_mono {p q : Pos} {ms : List Move} (h : playLegal p ms = some q) : MonoLE q p :=
  playLegal_rel (R := fun p q => MonoLE q p) MonoLE.refl
    (fun hl ih => MonoLE.trans ih (monoLE_step (legal_pseudo hl))) h

theorem monoLE_norm (p : Pos) : MonoLE (norm p) p := ⟨fun _ h => h, fun _ h => h, fun _ => Nat.le_refl _, fun _ => Nat.le_refl _⟩

theorem playLegalNorm_mono {p q : Pos} {ms : List Move} (h : playLegalNorm p ms = some q) : MonoLE q p :=
  playLegalNorm_rel (R := fun p q => MonoLE q p) MonoLE.refl
    (fun hl ih => MonoLE.trans (MonoLE.trans ih (monoLE_norm _)) (monoLE_step (legal_pseudo hl))) h

theorem playLegal_append (p : Pos) (a b : List Move) :
    playLegal p (a ++ b) = (playLegal p a).bind (fun q => playLegal q b) := by
  induction a generalizing p with
  | nil => rfl
  | cons m ms ih =>
    simp only [List.cons_append, playLegal]
    split
    · exact ih _
    · rfl

/-- the library's history is the specification's history with `norm` applied to the positions: the
same move lists are playable and the end positions agree up to `norm` -/
theorem playLegalNorm_eq (p : Pos) (ms : List Move) :
    (playLegalNorm (norm p) ms).map norm = (playLegal p ms).map norm ∧
    (playLegalNorm p ms).map norm = (playLegal p ms).map norm := by
  induction ms generalizing p with
  | nil => exact ⟨congrArg some (norm_norm p), rfl⟩
  | cons m ms ih =>
    simp only [playLegalNorm, playLegal, legal_norm, apply_norm]
    cases legal p m
    · exact ⟨rfl, rfl⟩
    · exact ⟨(ih _).1, (ih _).1⟩

end Closure
end Chess
