import ChessVerif.Lemmas.MakeMoveModel
import ChessVerif.Lemmas.GeomBridge7
import ChessVerif.Lemmas.Closure
/-!
Specification-side facts for `make_move_new`: square arithmetic, the bit tests of the model read as
geometry (under `TablesOK`), the kinds of pseudo-legal pawn and king move with the flags `apply` computes
for them, the ep mark kept by `norm`, and the castling rights.
-/
namespace Chess

/-! ### square arithmetic -/

theorem rank_eq_natCast (s : Sq) (n : Nat) : s.rank = (n : Int) ↔ s.rankN = n := Int.ofNat_inj
theorem file_eq_natCast (s : Sq) (n : Nat) : s.file = (n : Int) ↔ s.fileN = n := Int.ofNat_inj

theorem sq_eq_mkSq {s : Sq} {r f : Fin 8} (hf : s.file = f.val) (hr : s.rank = r.val) : s = mkSq r f :=
  Sq.ext_coord (hf.trans (mkSq_file r f).symm) (hr.trans (mkSq_rank r f).symm)

theorem mkSq_inj_file (r : Fin 8) {f g : Fin 8} (h : mkSq r f = mkSq r g) : f = g := by
  have := congrArg Fin.val h
  unfold mkSq at this
  simp only at this
  apply Fin.ext; omega

theorem mkSq_ne_file (r : Fin 8) {f g : Fin 8} (h : f ≠ g) : mkSq r f ≠ mkSq r g :=
  fun e => h (mkSq_inj_file r e)

theorem backrank_val (c : Color) : (c.backrank.val : Int) = c.homeRank := by cases c <;> rfl

/-- the square behind `D`, seen from colour `c`, is on the rank a `c`-pawn stepping to `D` came from -/
theorem ubackward_rank_of_step {S D : Sq} {c : Color} (h : D.rank - S.rank = c.fwd) :
    (D.ubackward c).rank = S.rank := by
  have := Sq.coord_bounds S
  have := Color.ranks c
  rw [Sq.ubackward_rank D c (by omega)]
  omega

/-! ### reading the model's bit tests -/

theorem mmDbl_iff {T : Tables} (hT : TablesOK T) (m : Move) :
    mmDbl T m ↔ ((m.src.rank = 1 ∨ m.src.rank = 6) ∧ (m.dst.rank = 3 ∨ m.dst.rank = 4)) := by
  unfold mmDbl
  rw [BitVec.and_comm, and_ofSq_ne_zero_iff, BitVec.and_comm, and_ofSq_ne_zero_iff, hT.pawnSrcDouble,
    hT.pawnDstDouble, mem_pawnSrcDouble, mem_pawnDstDouble]
  simp only [Bool.or_eq_true, beq_iff_eq, ← rank_eq_natCast]
  exact Iff.rfl

/-- membership of a square in `CASTLE_MOVES` -/
def inCastleMoves (s : Sq) : Prop := (s.rank = 0 ∨ s.rank = 7) ∧ (s.file = 2 ∨ s.file = 4 ∨ s.file = 6)

theorem castleMoves_bit {T : Tables} (hT : TablesOK T) (s : Sq) :
    T.castleMoves.getLsbD s.val = true ↔ inCastleMoves s := by
  rw [hT.castleMoves, mem_castleMoves]
  unfold inCastleMoves
  simp only [Bool.and_eq_true, Bool.or_eq_true, beq_iff_eq, ← rank_eq_natCast, ← file_eq_natCast, or_assoc]
  exact Iff.rfl

theorem xor_and_eq_self_iff (S D : Sq) (hne : S ≠ D) (X : BB) :
    ((BB.ofSq S ^^^ BB.ofSq D) &&& X) = (BB.ofSq S ^^^ BB.ofSq D) ↔
      (X.getLsbD S.val = true ∧ X.getLsbD D.val = true) := by
  have hv : S.val ≠ D.val := fun h => hne (Fin.ext h)
  constructor
  · intro h
    have h1 := congrArg (fun x => x.getLsbD S.val) h
    have h2 := congrArg (fun x => x.getLsbD D.val) h
    simp only [BitVec.getLsbD_and, BitVec.getLsbD_xor, BB.getLsbD_ofSq] at h1 h2
    simp [hv, Ne.symm hv] at h1 h2
    exact ⟨h1, h2⟩
  · rintro ⟨h1, h2⟩
    apply BitVec.eq_of_getLsbD_eq
    intro i _
    simp only [BitVec.getLsbD_and, BitVec.getLsbD_xor, BB.getLsbD_ofSq]
    by_cases hS : i = S.val
    · subst hS; simp [h1]
    · by_cases hD : i = D.val
      · subst hD; simp [h2]
      · simp [hS, hD]

theorem mmCastles_iff {T : Tables} (hT : TablesOK T) (m : Move) (moved : Piece) (hne : m.src ≠ m.dst) :
    mmCastles T m moved = true ↔ (moved = .king ∧ inCastleMoves m.src ∧ inCastleMoves m.dst) := by
  unfold mmCastles
  rw [Bool.and_eq_true, beq_iff_eq, beq_iff_eq, xor_and_eq_self_iff _ _ hne, castleMoves_bit hT, castleMoves_bit hT]

/-- the test of `set_ep`, on a board with consistent bitboards: an `o`-coloured pawn stands beside `D` -/
theorem adjTest_iff {T : Tables} (hT : TablesOK T) {r : Board} (hr : Struct r) (D : Sq) (o : Color) :
    (T.adjFiles D.getFile &&& T.ranks D.getRank &&& r.pawns &&& r.colorCombined o ≠ 0#64) ↔
      ∃ s : Sq, s.rank = D.rank ∧ (s.file - D.file).natAbs = 1 ∧ r.content s = some (.pawn, o) := by
  have hne : ∀ x : BB, x ≠ 0#64 ↔ ∃ s : Sq, x.getLsbD s.val = true := fun x =>
    ⟨fun h => (BB.exists_bit_of_ne_zero x h).elim fun i hi => ⟨⟨i, hi.1⟩, hi.2⟩,
      fun h => h.elim fun s hs => BB.ne_zero_of_getLsbD x s.val hs⟩
  rw [hne]
  apply exists_congr
  intro s
  rw [hr.content_some_iff, hT.adjFiles, hT.ranks]
  simp only [BitVec.getLsbD_and, mem_adjFiles, mem_ranks, Bool.and_eq_true, beq_iff_eq, Sq.getFile_val]
  rw [← rank_eq_natCast, Sq.getRank_val]
  constructor
  · rintro ⟨⟨⟨a, b⟩, c⟩, d⟩; exact ⟨b, a, c, d⟩
  · rintro ⟨b, a, c, d⟩; exact ⟨⟨⟨a, b⟩, c⟩, d⟩

/-! ### what `pseudoLegal` implies -/

/-- the part of `epValid` that `make_move_new` relies on: the marked square holds an enemy pawn on its
fourth rank and the square it passed over is empty -/
def Pos.EpSane (p : Pos) : Prop :=
  ∀ q, p.ep = some q →
    p.board q = some (.pawn, p.stm.other) ∧ q.rank = p.stm.other.pawnRank + 2 * p.stm.other.fwd ∧
    ∀ mid, sq? q.file (q.rank - p.stm.other.fwd) = some mid → p.board mid = none

/-- the four kinds of pawn move `pseudoLegal` admits -/
theorem pseudoLegal_pawn {p : Pos} {m : Move} (h : pseudoLegal p m = true)
    (hs : p.board m.src = some (.pawn, p.stm)) :
    (m.dst.rank ≠ p.stm.lastRank → m.promo = none) ∧
    ((m.dst.file - m.src.file = 0 ∧ m.dst.rank - m.src.rank = p.stm.fwd ∧ p.board m.dst = none) ∨
     (m.dst.file - m.src.file = 0 ∧ m.dst.rank - m.src.rank = 2 * p.stm.fwd ∧ m.src.rank = p.stm.pawnRank ∧
        p.board m.dst = none ∧ ∃ x, sq? m.src.file (m.src.rank + p.stm.fwd) = some x ∧ p.board x = none) ∨
     ((m.dst.file - m.src.file).natAbs = 1 ∧ m.dst.rank - m.src.rank = p.stm.fwd ∧
        ∃ x, p.board m.dst = some (x, p.stm.other)) ∨
     ((m.dst.file - m.src.file).natAbs = 1 ∧ m.dst.rank - m.src.rank = p.stm.fwd ∧ p.board m.dst = none ∧
        ∃ q, sq? m.dst.file m.src.rank = some q ∧ p.ep = some q ∧ p.board q = some (.pawn, p.stm.other))) := by
  unfold pseudoLegal at h
  rw [hs] at h
  simp only [Bool.and_eq_true, Bool.or_eq_true, beq_iff_eq, bne_iff_ne, empty_iff, colorAt_iff] at h
  obtain ⟨_, hpromo, hk⟩ := h
  refine ⟨?_, ?_⟩
  · intro hr
    rw [if_neg hr] at hpromo
    exact Option.isNone_iff_eq_none.mp hpromo
  · rcases hk with ((⟨⟨a, b⟩, c⟩ | ⟨⟨⟨⟨a, b⟩, c⟩, d⟩, e⟩) | ⟨⟨a, b⟩, c⟩) | ⟨⟨⟨a, b⟩, c⟩, d⟩
    · exact Or.inl ⟨a, b, c⟩
    · refine Or.inr (Or.inl ⟨a, b, c, d, ?_⟩)
      cases hx : sq? m.src.file (m.src.rank + p.stm.fwd) with
      | none => rw [hx] at e; cases e
      | some x => rw [hx] at e; exact ⟨x, rfl, empty_iff.mp e⟩
    · exact Or.inr (Or.inr (Or.inl ⟨a, b, c⟩))
    · refine Or.inr (Or.inr (Or.inr ⟨a, b, c, ?_⟩))
      cases hq : sq? m.dst.file m.src.rank with
      | none => rw [hq] at d; cases d
      | some q =>
        rw [hq] at d
        simp only [Bool.and_eq_true, beq_iff_eq, Pos.has] at d
        exact ⟨q, rfl, d.1, d.2⟩

/-- a pseudo-legal pawn move as `apply` sees it: a step or capture (no flag), the double step, or en
passant; with the data of each kind -/
theorem pawn_kinds {p : Pos} {m : Move} (h : pseudoLegal p m = true) (hs : p.board m.src = some (.pawn, p.stm)) :
    (isEnPassant p m = false ∧ isDoubleStep p m = false ∧ m.dst.rank - m.src.rank = p.stm.fwd ∧
      ((m.dst.file = m.src.file ∧ p.board m.dst = none) ∨ ∃ x, p.board m.dst = some (x, p.stm.other))) ∨
    (isEnPassant p m = false ∧ isDoubleStep p m = true ∧ m.promo = none ∧ m.dst.file = m.src.file ∧
      m.src.rank = p.stm.pawnRank ∧ m.dst.rank = p.stm.pawnRank + 2 * p.stm.fwd ∧ p.board m.dst = none ∧
      ∃ x, sq? m.src.file (m.src.rank + p.stm.fwd) = some x ∧ p.board x = none) ∨
    (isEnPassant p m = true ∧ isDoubleStep p m = false ∧ m.dst.rank - m.src.rank = p.stm.fwd ∧
      (m.dst.file - m.src.file).natAbs = 1 ∧ p.board m.dst = none ∧
      ∃ q, sq? m.dst.file m.src.rank = some q ∧ p.ep = some q ∧ p.board q = some (.pawn, p.stm.other)) := by
  have single : m.dst.rank - m.src.rank = p.stm.fwd → isDoubleStep p m = false := fun b =>
    eq_false_of_ne_true (by have := fwd_cases p.stm; rw [isDoubleStep_pawn hs]; omega)
  rcases (pseudoLegal_pawn h hs).2 with ⟨a, b, c⟩ | ⟨a, b, c, d, e⟩ | ⟨a, b, x, c⟩ | ⟨a, b, c, e⟩
  · refine Or.inl ⟨eq_false_of_ne_true ?_, single b, b, Or.inl ⟨by omega, c⟩⟩
    rw [isEnPassant_pawn hs]
    omega
  · have hr : m.dst.rank = p.stm.pawnRank + 2 * p.stm.fwd := by omega
    have hcc := Color.ranks p.stm
    refine Or.inr (Or.inl ⟨eq_false_of_ne_true ?_, ?_, (pseudoLegal_pawn h hs).1 (by omega), by omega, c, hr, d, e⟩)
    · rw [isEnPassant_pawn hs]
      omega
    · rw [isDoubleStep_pawn hs]
      omega
  · refine Or.inl ⟨eq_false_of_ne_true ?_, single b, b, Or.inr ⟨x, c⟩⟩
    rw [isEnPassant_pawn hs, c]
    exact fun hh => by cases hh.2
  · refine Or.inr (Or.inr ⟨?_, single b, b, a, c, e⟩)
    rw [isEnPassant_pawn hs]
    exact ⟨by omega, c⟩

/-- for a pseudo-legal move a double step is the FIDE double push: a pawn of the mover goes two squares
straight ahead from its start rank over an empty square onto an empty square -/
theorem double_step_shape {p : Pos} {m : Move} (h : pseudoLegal p m = true) (hd : isDoubleStep p m = true) :
    p.board m.src = some (.pawn, p.stm) ∧ isEnPassant p m = false ∧ m.promo = none ∧ m.dst.file = m.src.file ∧
      m.src.rank = p.stm.pawnRank ∧ m.dst.rank = p.stm.pawnRank + 2 * p.stm.fwd ∧ p.board m.dst = none ∧
      ∃ x, sq? m.src.file (m.src.rank + p.stm.fwd) = some x ∧ p.board x = none := by
  obtain ⟨pc, hs, _⟩ := pseudoLegal_src h
  by_cases hp : pc = .pawn
  · subst hp
    rcases pawn_kinds h hs with ⟨_, hd', _⟩ | ⟨he, _, r⟩ | ⟨_, hd', _⟩
    · rw [hd] at hd'; cases hd'
    · exact ⟨hs, he, r⟩
    · rw [hd] at hd'; cases hd'
  · rw [(not_pawn_flags hs hp).2] at hd; cases hd

/-- under a consistent ep mark the square behind the destination, which `make_move_new` compares with the
mark, is the marked one exactly in an en-passant capture -/
theorem ep_test_iff {p : Pos} {m : Move} (h : pseudoLegal p m = true)
    (hs : p.board m.src = some (.pawn, p.stm)) (hep : p.EpSane) :
    some (m.dst.ubackward p.stm) = p.ep ↔ isEnPassant p m = true := by
  have hbf := Sq.ubackward_file m.dst p.stm
  have behind : ∀ {q : Sq}, q.file = m.dst.file → m.dst.rank - q.rank = p.stm.fwd → m.dst.ubackward p.stm = q :=
    fun hf hr => Sq.ext_coord (hbf.trans hf.symm) (ubackward_rank_of_step hr)
  rcases pawn_kinds h hs with ⟨he, _, b, hk⟩ | ⟨he, _, _, a, c, d, _, x, hx, hxe⟩ | ⟨he, _, b, _, _, q, hq, hpe, _⟩
  · rw [he]
    refine ⟨fun hm => ?_, fun e => by cases e⟩
    obtain ⟨hq, _, hmid⟩ := hep _ hm.symm
    rcases hk with ⟨a, _⟩ | ⟨x, c⟩
    · -- a step: the square behind is the source, which holds no enemy pawn
      rw [behind a.symm b, hs] at hq
      injection hq with hq
      injection hq with _ hq
      exact absurd hq.symm (Color.other_ne _)
    · -- a capture: the square the marked pawn passed over is the destination, which is occupied
      have hcc := Color.ranks p.stm
      have hbr := ubackward_rank_of_step b
      have := hmid m.dst (sq?_eq_some.mpr ⟨hbf.symm, by omega⟩)
      rw [c] at this
      cases this
  · -- a double step: the square behind is the one passed over, which is empty
    rw [he]
    refine ⟨fun hm => ?_, fun e => by cases e⟩
    rw [sq?_eq_some] at hx
    rw [← behind (hx.1.trans a.symm) (by omega)] at hxe
    have := (hep _ hm.symm).1
    rw [hxe] at this
    cases this
  · rw [he, sq?_eq_some] at *
    exact ⟨fun _ => rfl, fun _ => (congrArg some (behind hq.1 (by omega))).trans hpe.symm⟩

/-- under a consistent ep mark an en-passant capture is no promotion: the marked pawn stands on its fourth
rank -/
theorem enPassant_promo {p : Pos} {m : Move} (h : pseudoLegal p m = true)
    (hs : p.board m.src = some (.pawn, p.stm)) (hep : p.EpSane) (he : isEnPassant p m = true) : m.promo = none := by
  rcases pawn_kinds h hs with ⟨he', _⟩ | ⟨_, _, hq, _⟩ | ⟨_, _, b, _, _, q, hq, hpe, _⟩
  · rw [he] at he'; cases he'
  · exact hq
  · rw [sq?_eq_some] at hq
    obtain ⟨_, hr, _⟩ := hep _ hpe
    have hcc := Color.ranks p.stm
    exact (pseudoLegal_pawn h hs).1 (by omega)

theorem mmDbl_iff_isDoubleStep {T : Tables} (hT : TablesOK T) {p : Pos} {m : Move} (h : pseudoLegal p m = true)
    (hs : p.board m.src = some (.pawn, p.stm)) : mmDbl T m ↔ isDoubleStep p m = true := by
  have single : m.dst.rank - m.src.rank = p.stm.fwd →
      ¬((m.src.rank = 1 ∨ m.src.rank = 6) ∧ (m.dst.rank = 3 ∨ m.dst.rank = 4)) := by
    have := fwd_cases p.stm
    omega
  rw [mmDbl_iff hT]
  rcases pawn_kinds h hs with ⟨_, hd, b, _⟩ | ⟨_, hd, _, _, c, d, _⟩ | ⟨_, hd, b, _⟩
  · rw [hd]
    exact ⟨fun e => absurd e (single b), fun e => by cases e⟩
  · have := Color.ranks p.stm
    rw [hd]
    exact ⟨fun _ => rfl, fun _ => by omega⟩
  · rw [hd]
    exact ⟨fun e => absurd e (single b), fun e => by cases e⟩

theorem pseudoLegal_king {p : Pos} {m : Move} (h : pseudoLegal p m = true)
    (hs : p.board m.src = some (.king, p.stm)) :
    m.promo = none ∧
    (attacks p m.src m.dst = true ∨
    (m.src.rank = p.stm.homeRank ∧ m.src.file = 4 ∧ m.dst.rank = m.src.rank ∧ (m.dst.file - m.src.file).natAbs = 2 ∧
      ∃ r, sq? (if m.dst.file - m.src.file = 2 then 7 else 0) p.stm.homeRank = some r ∧
        p.board r = some (.rook, p.stm) ∧ pathClear p m.src r = true)) := by
  unfold pseudoLegal at h
  rw [hs] at h
  simp only [Bool.and_eq_true, Bool.or_eq_true, beq_iff_eq, bne_iff_ne] at h
  obtain ⟨_, hq, hk⟩ := h
  refine ⟨Option.isNone_iff_eq_none.mp hq, ?_⟩
  rcases hk with hk | ⟨⟨⟨⟨a, b⟩, c⟩, d⟩, _, e⟩
  · exact Or.inl hk
  · refine Or.inr ⟨a, b, by omega, d, ?_⟩
    cases hr : sq? (if m.dst.file - m.src.file = 2 then 7 else 0) p.stm.homeRank with
    | none => rw [hr] at e; cases e
    | some r =>
      rw [hr] at e
      cases hmid : sq? (4 + (m.dst.file - m.src.file) / 2) p.stm.homeRank with
      | none => rw [hmid] at e; cases e
      | some mid =>
        rw [hmid] at e
        simp only [Bool.and_eq_true, Pos.has, beq_iff_eq] at e
        exact ⟨r, rfl, e.1.1.1.1, e.1.1.1.2⟩

/-- `CASTLE_ROOK_START` / `CASTLE_ROOK_END` for the two destination files of a castling king: the rook's
squares differ from the king's and from each other, and on a rank the king's destination and the rook's lie
strictly between the king's e-square and the rook's corner -/
theorem castle_files : ∀ g : Fin 8, g = 6 ∨ g = 2 →
    Board.castleRookStart g ≠ 4 ∧ Board.castleRookStart g ≠ g ∧ Board.castleRookEnd g ≠ 4 ∧
    Board.castleRookEnd g ≠ g ∧ Board.castleRookEnd g ≠ Board.castleRookStart g ∧
    ((Board.castleRookStart g).val : Int) = (if (g.val : Int) > 4 then 7 else 0) ∧
    ((Board.castleRookStart g).val : Int) = (if (g.val : Int) - 4 = 2 then 7 else 0) ∧
    ((Board.castleRookEnd g).val : Int) = (if (g.val : Int) > 4 then 5 else 3) ∧
    ∀ r : Fin 8, strictlyBetween (mkSq r 4) (mkSq r g) (mkSq r (Board.castleRookStart g)) = true ∧
      strictlyBetween (mkSq r 4) (mkSq r (Board.castleRookEnd g)) (mkSq r (Board.castleRookStart g)) = true := by
  decide +kernel

theorem homeSq_eq (d : Color) (f : Fin 8) : homeSq d (f.val : Int) = some (mkSq d.backrank f) := by
  unfold homeSq
  rw [sq?_eq_some, mkSq_file, mkSq_rank, backrank_val]
  exact ⟨rfl, rfl⟩

theorem homeSq_4 (d : Color) : homeSq d 4 = some (mkSq d.backrank 4) := homeSq_eq d 4
theorem homeSq_7 (d : Color) : homeSq d 7 = some (mkSq d.backrank 7) := homeSq_eq d 7
theorem homeSq_0 (d : Color) : homeSq d 0 = some (mkSq d.backrank 0) := homeSq_eq d 0

/-- a pseudo-legal king move is a step, or castling: from the e-square of the home rank to the g- or
c-square over empty squares, the rook going from `rs` to `re`, the squares `make_move_new` computes -/
theorem king_cases {p : Pos} {m : Move} (h : pseudoLegal p m = true) (hs : p.board m.src = some (.king, p.stm)) :
    (isCastle p m = false ∧ (m.dst.file - m.src.file).natAbs ≤ 1 ∧ (m.dst.rank - m.src.rank).natAbs ≤ 1) ∨
    (isCastle p m = true ∧ m.src = mkSq p.stm.backrank 4 ∧ m.dst = mkSq p.stm.backrank m.dst.getFile ∧
      (m.dst.getFile = 6 ∨ m.dst.getFile = 2) ∧ p.board m.dst = none ∧
      ∃ rs re, rs = mkSq p.stm.backrank (Board.castleRookStart m.dst.getFile) ∧
        re = mkSq p.stm.backrank (Board.castleRookEnd m.dst.getFile) ∧
        homeSq p.stm (if m.dst.file > m.src.file then 7 else 0) = some rs ∧
        homeSq p.stm (if m.dst.file > m.src.file then 5 else 3) = some re ∧
        p.board rs = some (.rook, p.stm) ∧ p.board re = none ∧
        rs ≠ m.src ∧ rs ≠ m.dst ∧ re ≠ m.src ∧ re ≠ m.dst ∧ re ≠ rs) := by
  rcases (pseudoLegal_king h hs).2 with hk | ⟨a, b, c, d, r, hr, hrook, hpath⟩
  · obtain ⟨n1, n2⟩ := king_attacks_near hs hk
    exact Or.inl ⟨eq_false_of_ne_true (by rw [isCastle_king hs]; omega), n1, n2⟩
  · right
    have hDf : (m.dst.getFile.val : Int) = m.dst.file := rfl
    generalize m.dst.getFile = g at hDf ⊢
    have hg : g = 6 ∨ g = 2 := by
      rw [Fin.ext_iff, Fin.ext_iff]
      show g.val = 6 ∨ g.val = 2
      omega
    obtain ⟨f1, f2, f3, f4, f5, v1, v2, v3, hbt⟩ := castle_files g hg
    have hS : m.src = mkSq p.stm.backrank 4 := sq_eq_mkSq b (a.trans (backrank_val _).symm)
    have hD : m.dst = mkSq p.stm.backrank g := sq_eq_mkSq hDf.symm ((c.trans a).trans (backrank_val _).symm)
    rw [sq?_eq_some, b, ← hDf, ← v2] at hr
    have hR : r = mkSq p.stm.backrank (Board.castleRookStart g) := sq_eq_mkSq hr.1 (hr.2.trans (backrank_val _).symm)
    have hbD : strictlyBetween m.src m.dst r = true := by rw [hS, hD, hR]; exact (hbt _).1
    have hbE : strictlyBetween m.src (mkSq p.stm.backrank (Board.castleRookEnd g)) r = true := by
      rw [hS, hR]; exact (hbt _).2
    refine ⟨(isCastle_king hs).mpr d, hS, hD, hg, pathClear_empty hpath hbD, _, _, rfl, rfl, ?_, ?_, hR ▸ hrook,
      pathClear_empty hpath hbE, ?_, ?_, ?_, ?_, mkSq_ne_file _ f5⟩
    · rw [← hDf, b, ← v1]; exact homeSq_eq _ _
    · rw [← hDf, b, ← v3]; exact homeSq_eq _ _
    · rw [hS]; exact mkSq_ne_file _ f1
    · rw [hD]; exact mkSq_ne_file _ f2
    · rw [hS]; exact mkSq_ne_file _ f3
    · rw [hD]; exact mkSq_ne_file _ f4

/-- two squares of `CASTLE_MOVES` a king's step apart are one square -/
theorem inCastleMoves_near {S D : Sq} (hS : inCastleMoves S) (hD : inCastleMoves D)
    (n1 : (D.file - S.file).natAbs ≤ 1) (n2 : (D.rank - S.rank).natAbs ≤ 1) : S = D := by
  obtain ⟨r1, f1⟩ := hS
  obtain ⟨r2, f2⟩ := hD
  exact Sq.ext_coord (by clear r1 r2 n2; omega) (by clear f1 f2 n1; omega)

theorem mmCastles_eq_isCastle {T : Tables} (hT : TablesOK T) {p : Pos} {m : Move} (h : pseudoLegal p m = true)
    (hs : p.board m.src = some (.king, p.stm)) : mmCastles T m .king = isCastle p m := by
  have hne := pseudoLegal_ne h
  rcases king_cases h hs with ⟨hc, n1, n2⟩ | ⟨hc, hS, hD, hg, _⟩
  · rw [hc]
    apply eq_false_of_ne_true
    rw [mmCastles_iff hT m .king hne]
    exact fun hh => hne (inCastleMoves_near hh.2.1 hh.2.2 n1 n2)
  · have hrank : p.stm.homeRank = 0 ∨ p.stm.homeRank = 7 := by cases p.stm <;> simp [Color.homeRank]
    have key : ∀ f : Fin 8, ((f.val : Int) = 2 ∨ (f.val : Int) = 4 ∨ (f.val : Int) = 6) →
        inCastleMoves (mkSq p.stm.backrank f) :=
      fun f hf => ⟨by rw [mkSq_rank, backrank_val]; exact hrank, by rw [mkSq_file]; exact hf⟩
    rw [hc, mmCastles_iff hT m .king hne, hS, hD]
    refine ⟨rfl, key 4 (Or.inr (Or.inl rfl)), key _ ?_⟩
    rcases hg with e | e
    · rw [e]; exact Or.inr (Or.inr rfl)
    · rw [e]; exact Or.inl rfl

/-! ### the ep mark kept by `norm` -/

theorem norm_ep_eq_some {P : Pos} {q : Sq} : (norm P).ep = some q ↔
    P.ep = some q ∧ ∃ t : Sq, t.rank = q.rank ∧ (t.file - q.file).natAbs = 1 ∧ P.has t .pawn P.stm = true := by
  have hany : ∀ q' : Sq, (allSq.any fun s => s.rank == q'.rank && (s.file - q'.file).natAbs == 1 && P.has s .pawn P.stm) = true ↔
      ∃ t : Sq, t.rank = q'.rank ∧ (t.file - q'.file).natAbs = 1 ∧ P.has t .pawn P.stm = true := by
    intro q'
    rw [List.any_eq_true]
    constructor
    · rintro ⟨t, _, ht⟩
      simp only [Bool.and_eq_true, beq_iff_eq] at ht
      exact ⟨t, ht.1.1, ht.1.2, ht.2⟩
    · rintro ⟨t, h1, h2, h3⟩
      refine ⟨t, mem_allSq t, ?_⟩
      simp only [Bool.and_eq_true, beq_iff_eq]
      exact ⟨⟨h1, h2⟩, h3⟩
  unfold norm
  cases hp : P.ep with
  | none => exact ⟨fun e => (by cases e), fun e => (by cases e.1)⟩
  | some q' =>
    dsimp only
    by_cases hc : (allSq.any fun s => s.rank == q'.rank && (s.file - q'.file).natAbs == 1 && P.has s .pawn P.stm) = true
    · rw [if_pos hc]
      exact ⟨fun e => ⟨e, Option.some.inj e ▸ (hany q').mp hc⟩, fun e => e.1⟩
    · rw [if_neg hc]
      exact ⟨fun e => (by cases e), fun e => absurd ((hany q').mpr (Option.some.inj e.1 ▸ e.2)) hc⟩

theorem norm_ep_some {P : Pos} {q : Sq} (h : (norm P).ep = some q) : P.ep = some q := (norm_ep_eq_some.mp h).1

theorem norm_apply_ep_none {p : Pos} {m : Move} (h : isDoubleStep p m = false) : (norm (apply p m)).ep = none := by
  cases hn : (norm (apply p m)).ep with
  | none => rfl
  | some q =>
    have := norm_ep_some hn
    rw [Closure.apply_ep, h] at this
    cases this

/-- `set_ep` records what `norm` keeps: on a board whose men are those of `P`, side to move still the
mover's, `set_ep` of the pending mark `D` tests for a pawn of `P`'s side to move beside `D`, as `norm` does -/
theorem setEp_ep_eq_norm {T : Tables} (hT : TablesOK T) {r : Board} (hr : Struct r) {P : Pos} {D : Sq}
    (hc : ∀ t, r.content t = P.board t) (hs : r.stm.other = P.stm) (he : r.ep = none) (hP : P.ep = some D) :
    (r.setEp T D).ep = (norm P).ep := by
  have htest : T.adjFiles D.getFile &&& T.ranks D.getRank &&& r.pawns &&& r.colorCombined r.stm.other ≠ 0#64 ↔
      ∃ t : Sq, t.rank = D.rank ∧ (t.file - D.file).natAbs = 1 ∧ P.has t .pawn P.stm = true := by
    rw [adjTest_iff hT hr, hs]
    refine exists_congr fun t => and_congr_right fun _ => and_congr_right fun _ => ?_
    rw [hc, Pos.has, beq_iff_eq]
  rw [setEp_ep, he]
  by_cases ht : T.adjFiles D.getFile &&& T.ranks D.getRank &&& r.pawns &&& r.colorCombined r.stm.other ≠ 0#64
  · rw [if_pos ht]
    exact (norm_ep_eq_some.mpr ⟨hP, htest.mp ht⟩).symm
  · rw [if_neg ht]
    cases hn : (norm P).ep with
    | none => rfl
    | some q =>
      obtain ⟨hq, hex⟩ := norm_ep_eq_some.mp hn
      rw [hP] at hq
      cases hq
      exact absurd (htest.mpr hex) ht

/-! ### castling rights -/

/-- castling rights imply king and rook on their home squares (the clause of `Valid`) -/
def Pos.RightsSane (p : Pos) : Prop := ∀ c,
  (p.castleK c = true → (homeSq c 4).any (p.has · .king c) = true ∧ (homeSq c 7).any (p.has · .rook c) = true) ∧
  (p.castleQ c = true → (homeSq c 4).any (p.has · .king c) = true ∧ (homeSq c 0).any (p.has · .rook c) = true)

/-- `CASTLES_PER_SQUARE`: the e-square of the home rank takes both rights away, a corner its own -/
theorem squareToCastleRights_eq (d : Color) (X : Sq) : squareToCastleRights d X =
    ⟨decide (X = mkSq d.backrank 4) || decide (X = mkSq d.backrank 7),
     decide (X = mkSq d.backrank 4) || decide (X = mkSq d.backrank 0)⟩ := by
  cases d <;> revert X <;> decide +kernel

/-- the model's rights update (`square_to_castle_rights` of the source for the mover, of the destination
for the opponent) agrees with the specification's (`touched` home squares), when rights imply men at home -/
theorem rights_agree {p : Pos} {m : Move} (hr : p.RightsSane) {pc : Piece}
    (hs : p.board m.src = some (pc, p.stm)) (hd : p.colorAt m.dst ≠ some p.stm) (d : Color) :
    ((⟨p.castleK d, p.castleQ d⟩ : CastleRights).remove
        (squareToCastleRights d (if d = p.stm then m.src else m.dst))).ks = (apply p m).castleK d ∧
    ((⟨p.castleK d, p.castleQ d⟩ : CastleRights).remove
        (squareToCastleRights d (if d = p.stm then m.src else m.dst))).qs = (apply p m).castleQ d := by
  have hsc : p.colorAt m.src = some p.stm := colorAt_of_board hs
  -- on a square holding a man of colour `d`, the square the model tests is that square iff the move touches it
  have key : ∀ {x : Sq} {pc' : Piece}, (some x).any (p.has · pc' d) = true →
      decide ((if d = p.stm then m.src else m.dst) = x) = (some x == some m.src || some x == some m.dst) := by
    intro x pc' hx
    simp only [Option.any_some, Pos.has, beq_iff_eq] at hx
    have hxc : p.colorAt x = some d := colorAt_of_board hx
    by_cases hds : d = p.stm
    · have : x ≠ m.dst := fun e => hd (hds ▸ e ▸ hxc)
      rw [if_pos hds, Option.some_beq_some, Option.some_beq_some, beq_false_of_ne this, Bool.or_false]
      exact decide_eq_decide.mpr eq_comm
    · have : x ≠ m.src := fun e => hds (Option.some.inj ((e ▸ hxc).symm.trans hsc))
      rw [if_neg hds, Option.some_beq_some, Option.some_beq_some, beq_false_of_ne this, Bool.false_or]
      exact decide_eq_decide.mpr eq_comm
  obtain ⟨hK, hQ⟩ := hr d
  unfold CastleRights.remove apply
  simp only [squareToCastleRights_eq, homeSq_4, homeSq_7, homeSq_0]
  constructor
  · cases hk : p.castleK d with
    | false => rfl
    | true =>
      obtain ⟨k1, k2⟩ := hK hk
      rw [homeSq_4] at k1
      rw [homeSq_7] at k2
      rw [key k1, key k2, Bool.not_or, Bool.and_assoc]
  · cases hk : p.castleQ d with
    | false => rfl
    | true =>
      obtain ⟨k1, k2⟩ := hQ hk
      rw [homeSq_4] at k1
      rw [homeSq_0] at k2
      rw [key k1, key k2, Bool.not_or, Bool.and_assoc]

/-! ### `Valid` positions satisfy the two side conditions -/

theorem epValid_epSane {p : Pos} (h : epValid p = true) : p.EpSane := by
  intro q hq
  unfold epValid at h
  rw [hq] at h
  simp only [Bool.and_eq_true, beq_iff_eq, Pos.has] at h
  obtain ⟨⟨h1, h2⟩, h3⟩ := h
  refine ⟨h1, h2, ?_⟩
  intro mid hmid
  rw [hmid] at h3
  cases ho : sq? q.file p.stm.other.pawnRank with
  | none => rw [ho] at h3; cases h3
  | some org =>
    rw [ho] at h3
    simp only [Bool.and_eq_true, empty_iff] at h3
    exact h3.1.1

theorem Valid_epSane {p : Pos} (h : Valid p = true) : p.EpSane :=
  epValid_epSane ((Closure.valid_iff p).mp h).ep

theorem Valid_rightsSane {p : Pos} (h : Valid p = true) : p.RightsSane :=
  fun c => ⟨((Closure.valid_iff p).mp h).ck c, ((Closure.valid_iff p).mp h).cq c⟩

end Chess
