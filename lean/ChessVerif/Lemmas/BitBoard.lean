import ChessVerif.Spec.Small
/-
A `BitBoard` (`BitVec 64`) as the set of squares whose bits are set, for all 2^64 values: the lists
of `Basic.lean` that enumerate a type, equality bit by bit, single squares (`ofSq`) and the tests the
code writes with them (`x &&& ofSq s`), `ofList`, the member list `toList` (`for sq in bb`), `popcnt`
and boards with one bit, `toSq`, `swapBytes`.  Property C20 is stated with these.
-/
namespace Chess

theorem sq_ext {a b : Sq} (h : a.val = b.val) : a = b := Fin.ext h

/-! ### lists that enumerate their type -/

theorem all_iff_forall {α : Type} {l : List α} (hl : ∀ x, x ∈ l) (f : α → Bool) :
    l.all f = true ↔ ∀ x, f x = true := by
  simp only [List.all_eq_true, hl, true_imp_iff]

theorem allSq_nodup : allSq.Nodup := List.nodup_finRange 64
theorem mem_allSq (s : Sq) : s ∈ allSq := List.mem_finRange s

theorem allSq_any (f : Sq → Bool) : allSq.any f = true ↔ ∃ x, f x = true := by
  simp only [List.any_eq_true, mem_allSq, true_and]

theorem allSq_all (f : Sq → Bool) : allSq.all f = true ↔ ∀ x, f x = true := all_iff_forall mem_allSq f

theorem finRange_all {n : Nat} (f : Fin n → Bool) : (List.finRange n).all f = true ↔ ∀ i, f i = true :=
  all_iff_forall List.mem_finRange f

theorem allColors_all (f : Color → Bool) : allColors.all f = true ↔ ∀ c, f c = true :=
  all_iff_forall (fun c => by cases c <;> decide) f

theorem allPieces_all (f : Piece → Bool) : allPieces.all f = true ↔ ∀ p, f p = true :=
  all_iff_forall (fun p => by cases p <;> decide) f

theorem BB.getLsbD_ge (b : BB) (i : Nat) (h : 64 ≤ i) : b.getLsbD i = false :=
  BitVec.getLsbD_of_ge b i h

namespace BB

/-! ### equality and emptiness bit by bit -/

theorem ext {a b : BB} (h : ∀ z : Sq, a.getLsbD z.val = b.getLsbD z.val) : a = b :=
  BitVec.eq_of_getLsbD_eq fun i hi => h ⟨i, hi⟩

theorem ne_zero_of_getLsbD (b : BB) (i : Nat) (hi : b.getLsbD i = true) : b ≠ 0#64 := by
  intro h0
  rw [h0, BitVec.getLsbD_zero] at hi
  cases hi

theorem exists_bit_of_ne_zero (b : BB) (h : b ≠ 0#64) : ∃ i, i < 64 ∧ b.getLsbD i = true :=
  Classical.byContradiction fun hn => h (BitVec.eq_of_getLsbD_eq fun i hi => by
    rw [BitVec.getLsbD_zero]
    exact Bool.eq_false_iff.mpr fun hb => hn ⟨i, hi, hb⟩)

theorem eq_zero_iff (b : BB) : b = 0#64 ↔ ∀ z : Sq, b.getLsbD z.val = false :=
  ⟨fun h z => by rw [h, BitVec.getLsbD_zero], fun h => ext fun z => by
    rw [BitVec.getLsbD_zero]; exact h z⟩

theorem ne_zero_iff (b : BB) : b ≠ 0#64 ↔ ∃ z : Sq, b.getLsbD z.val = true :=
  ⟨fun h => (exists_bit_of_ne_zero b h).elim fun i ⟨hi, hb⟩ => ⟨⟨i, hi⟩, hb⟩,
    fun ⟨z, hz⟩ => ne_zero_of_getLsbD b z.val hz⟩

/-! ### single squares -/

theorem getLsbD_ofSq (s : Sq) (i : Nat) : (ofSq s).getLsbD i = decide (i = s.val) := by
  have := s.isLt
  rw [ofSq, BitVec.getLsbD_shiftLeft, BitVec.getLsbD_one, Bool.eq_iff_iff]
  simp only [Bool.and_eq_true, decide_eq_true_eq, Bool.not_eq_true', decide_eq_false_iff_not]
  omega

theorem getLsbD_ofSq_val (t x : Sq) : (ofSq t).getLsbD x.val = decide (x = t) := by
  rw [getLsbD_ofSq]
  exact decide_eq_decide.mpr Fin.val_inj

theorem getLsbD_ofSq_self (s : Sq) : (ofSq s).getLsbD s.val = true := by
  rw [getLsbD_ofSq]; exact decide_eq_true rfl

theorem ofSq_ne_zero (s : Sq) : ofSq s ≠ 0#64 := ne_zero_of_getLsbD _ s.val (getLsbD_ofSq_self s)

theorem toNat_ofSq (s : Sq) : (ofSq s).toNat = 2 ^ s.val := by
  unfold ofSq
  rw [BitVec.toNat_shiftLeft, BitVec.toNat_ofNat, Nat.shiftLeft_eq, Nat.one_mul,
    Nat.mod_eq_of_lt (Nat.pow_lt_pow_right (by decide) s.isLt)]

theorem and_ofSq (x : BB) (s : Sq) : x &&& ofSq s = if x.getLsbD s.val then ofSq s else 0#64 := by
  refine ext fun z => ?_
  rw [BitVec.getLsbD_and, apply_ite (fun b : BB => b.getLsbD z.val), getLsbD_ofSq_val, BitVec.getLsbD_zero]
  by_cases hz : z = s
  · rw [hz, decide_eq_true rfl]; cases x.getLsbD s.val <;> rfl
  · rw [decide_eq_false hz, Bool.and_false, ite_self]

/-! ### `ofList` -/

theorem getLsbD_foldl_or {α : Type} (f : α → BB) (l : List α) (acc : BB) (i : Nat) :
    (l.foldl (fun a x => a ||| f x) acc).getLsbD i = (acc.getLsbD i || l.any fun x => (f x).getLsbD i) := by
  induction l generalizing acc with
  | nil => simp
  | cons x xs ih => rw [List.foldl_cons, ih, BitVec.getLsbD_or, List.any_cons, Bool.or_assoc]

theorem foldl_or {α : Type} (f : α → BB) (l : List α) (acc : BB) :
    l.foldl (fun a x => a ||| f x) acc = acc ||| l.foldl (fun a x => a ||| f x) 0#64 :=
  BitVec.eq_of_getLsbD_eq fun i _ => by
    rw [getLsbD_foldl_or, BitVec.getLsbD_or, getLsbD_foldl_or, BitVec.getLsbD_zero, Bool.false_or]

theorem ofList_cons (t : Sq) (ts : List Sq) : ofList (t :: ts) = ofSq t ||| ofList ts := by
  unfold ofList
  rw [List.foldl_cons, foldl_or, BitVec.zero_or]

theorem ofList_append (l₁ l₂ : List Sq) : ofList (l₁ ++ l₂) = ofList l₁ ||| ofList l₂ := by
  unfold ofList
  rw [List.foldl_append, foldl_or]

theorem getLsbD_ofList (l : List Sq) (s : Sq) : (ofList l).getLsbD s.val = decide (s ∈ l) := by
  unfold ofList
  rw [getLsbD_foldl_or, BitVec.getLsbD_zero, Bool.false_or, Bool.eq_iff_iff, List.any_eq_true,
    decide_eq_true_eq]
  simp only [getLsbD_ofSq_val, decide_eq_true_eq]
  exact ⟨fun ⟨x, hx, hxs⟩ => hxs ▸ hx, fun hs => ⟨s, hs, rfl⟩⟩

theorem has_ofList {t : Sq} {ts : List Sq} (h : t ∈ ts) : (ofList ts).has t = true :=
  (getLsbD_ofList ts t).trans (decide_eq_true h)

theorem and_ofList_cons (q : BB) (t : Sq) (ts : List Sq) :
    q &&& ofList (t :: ts) = (if q.has t then ofSq t else 0#64) ||| (q &&& ofList ts) := by
  rw [ofList_cons, BitVec.and_or_distrib_left, and_ofSq]; rfl

/-! ### the lowest set bit -/

theorem tz_spec (b : BB) (h : b ≠ 0#64) :
    tz b < 64 ∧ b.getLsbD (tz b) = true ∧ ∀ j, j < tz b → b.getLsbD j = false := by
  unfold tz
  cases hf : (List.range 64).find? (fun i => b.getLsbD i) with
  | none =>
    obtain ⟨i, hi, hb⟩ := exists_bit_of_ne_zero b h
    have := List.find?_range_eq_none.mp hf i hi
    rw [hb] at this
    cases this
  | some k =>
    obtain ⟨h1, h2, h3⟩ := List.find?_range_eq_some.mp hf
    exact ⟨List.mem_range.mp h2, h1, fun j hj => by simpa using h3 j hj⟩

theorem tz_zero : tz 0#64 = 64 := by decide

theorem toSq_val (b : BB) (h : b ≠ 0#64) : (toSq b).val = tz b :=
  Nat.mod_eq_of_lt (tz_spec b h).1

theorem getLsbD_toSq (b : BB) (h : b ≠ 0#64) : b.getLsbD (toSq b).val = true := by
  rw [toSq_val b h]; exact (tz_spec b h).2.1

theorem getLsbD_lt_toSq (b : BB) (h : b ≠ 0#64) (j : Nat) (hj : j < (toSq b).val) :
    b.getLsbD j = false := by
  rw [toSq_val b h] at hj; exact (tz_spec b h).2.2 j hj

theorem toSq_le_of_getLsbD (b : BB) (i : Nat) (hi : b.getLsbD i = true) : (toSq b).val ≤ i :=
  Nat.le_of_not_lt fun hn =>
    Bool.false_ne_true ((getLsbD_lt_toSq b (ne_zero_of_getLsbD b i hi) i hn).symm.trans hi)

theorem getLsbD_clearLowest (b : BB) (h : b ≠ 0#64) (i : Nat) :
    (b ^^^ ofSq (toSq b)).getLsbD i = (b.getLsbD i && decide (i ≠ (toSq b).val)) := by
  rw [BitVec.getLsbD_xor, getLsbD_ofSq]
  by_cases hi : i = (toSq b).val
  · rw [hi, getLsbD_toSq b h]; simp
  · simp [hi]

/-! ### the member list -/

theorem map_val_allSq : allSq.map (fun s : Sq => s.val) = List.range 64 := by
  apply List.ext_getElem <;> simp [allSq]

theorem popcnt_eq_length_members (b : BB) :
    b.popcnt = (allSq.filter fun s => b.getLsbD s.val).length := by
  unfold popcnt
  rw [← map_val_allSq, List.filter_map, List.length_map]
  rfl

theorem members_nil_iff (b : BB) : (allSq.filter fun s => b.getLsbD s.val) = [] ↔ b = 0#64 := by
  rw [List.filter_eq_nil_iff, eq_zero_iff]
  exact ⟨fun h z => Bool.eq_false_iff.mpr (h z (mem_allSq z)), fun h z _ => Bool.eq_false_iff.mp (h z)⟩

/-- in an ascending list of squares, the elements satisfying `p` are the least of them, `a`, followed
by those satisfying `p` other than `a` -/
theorem filter_eq_least_cons {l : List Sq} (hl : l.Pairwise (· < ·)) {a : Sq} (ha : a ∈ l)
    {p q : Sq → Bool} (hpa : p a = true) (hlt : ∀ x : Sq, x < a → p x = false)
    (hq : ∀ x : Sq, q x = (p x && decide (x.val ≠ a.val))) : l.filter p = a :: l.filter q := by
  induction l with
  | nil => cases ha
  | cons x xs ih =>
    obtain ⟨hx, hxs⟩ := List.pairwise_cons.mp hl
    rcases List.mem_cons.mp ha with rfl | ha
    · have hqa : q a = false := by rw [hq]; simp
      rw [List.filter_cons_of_pos hpa, List.filter_cons_of_neg (by rw [hqa]; exact Bool.false_ne_true)]
      refine congrArg _ (List.filter_congr fun y hy => ?_)
      rw [hq, decide_eq_true (Nat.ne_of_gt (hx y hy)), Bool.and_true]
    · have hpx : p x = false := hlt x (hx a ha)
      have hqx : q x = false := by rw [hq, hpx]; rfl
      rw [List.filter_cons_of_neg (by rw [hpx]; exact Bool.false_ne_true),
        List.filter_cons_of_neg (by rw [hqx]; exact Bool.false_ne_true)]
      exact ih hxs ha

/-- the members of `b ≠ 0` are its lowest square followed by the members of `b` with that bit cleared -/
theorem members_cons (b : BB) (h : b ≠ 0#64) :
    (allSq.filter fun s => b.getLsbD s.val) =
      toSq b :: (allSq.filter fun s => (b ^^^ ofSq (toSq b)).getLsbD s.val) :=
  filter_eq_least_cons (List.pairwise_lt_finRange 64) (List.mem_finRange _) (getLsbD_toSq b h)
    (fun x hx => getLsbD_lt_toSq b h x.val hx) (fun x => getLsbD_clearLowest b h x.val)

theorem popcnt_zero : popcnt 0#64 = 0 := by decide

theorem popcnt_clearLowest (b : BB) (h : b ≠ 0#64) :
    popcnt b = popcnt (b ^^^ ofSq (toSq b)) + 1 := by
  rw [popcnt_eq_length_members, popcnt_eq_length_members, members_cons b h, List.length_cons]

theorem popcnt_le (b : BB) : popcnt b ≤ 64 := by
  have := List.length_filter_le (fun i => b.getLsbD i) (List.range 64)
  rwa [List.length_range] at this

theorem iterFuel_exact (n : Nat) : ∀ b : BB, popcnt b ≤ n →
    iterFuel n b = allSq.filter fun s => b.getLsbD s.val := by
  induction n with
  | zero =>
    intro b hb
    rw [popcnt_eq_length_members] at hb
    rw [List.eq_nil_of_length_eq_zero (Nat.le_zero.mp hb)]
    rfl
  | succ n ih =>
    intro b hb
    by_cases hz : b = 0#64
    · rw [(members_nil_iff b).mpr hz, hz]
      rfl
    · rw [members_cons b hz, ← ih _ (by have := popcnt_clearLowest b hz; omega)]
      simp [iterFuel, next, hz]

theorem toList_exact (b : BB) : b.toList = allSq.filter fun s => b.getLsbD s.val :=
  iterFuel_exact 64 b (popcnt_le b)

theorem mem_toList (b : BB) (s : Sq) : s ∈ b.toList ↔ b.getLsbD s.val = true := by
  rw [toList_exact, List.mem_filter]
  exact and_iff_right (mem_allSq s)

theorem toList_nodup (b : BB) : b.toList.Nodup := by
  rw [toList_exact]
  exact allSq_nodup.filter _

theorem toList_length (b : BB) : b.toList.length = b.popcnt := by
  rw [toList_exact, popcnt_eq_length_members]

/-! ### `to_square` / `from_square` -/

theorem toSq_ofSq (s : Sq) : toSq (ofSq s) = s := by
  have := getLsbD_toSq (ofSq s) (ofSq_ne_zero s)
  rw [getLsbD_ofSq] at this
  exact Fin.ext (of_decide_eq_true this)

theorem ofSq_toSq (b : BB) (h : b.popcnt = 1) : ofSq (toSq b) = b := by
  have hz : b ≠ 0#64 := by
    intro h0; rw [h0, popcnt_zero] at h; cases h
  have h0 : popcnt (b ^^^ ofSq (toSq b)) = 0 := by have := popcnt_clearLowest b hz; omega
  rw [popcnt_eq_length_members] at h0
  exact (BitVec.xor_eq_zero_iff.mp ((members_nil_iff _).mp (List.eq_nil_of_length_eq_zero h0))).symm

/-! ### `swap_bytes` -/

theorem getLsbD_0xFF (k : Nat) : (0xFF#64).getLsbD k = decide (k < 8) := by
  have : (0xFF#64) = BitVec.ofNat 64 (2^8 - 1) := by decide
  rw [this, BitVec.getLsbD_ofNat, Nat.testBit_two_pow_sub_one]
  by_cases hk : k < 8
  · have : k < 64 := by omega
    simp [hk, this]
  · simp [hk]

/-- byte `i` of `b`, moved to byte `7 - i`: its bit `r` of byte `q` -/
theorem getLsbD_swapTerm (b : BB) (i q r : Nat) (hi : i < 8) (hq : q < 8) (hr : r < 8) :
    (((b >>> (8*i)) &&& 0xFF#64) <<< (8*(7-i))).getLsbD (8*q + r) =
      (decide (q = 7 - i) && b.getLsbD (8*i + r)) := by
  rw [BitVec.getLsbD_shiftLeft, BitVec.getLsbD_and, BitVec.getLsbD_ushiftRight, getLsbD_0xFF,
    decide_eq_true (Nat.lt_of_lt_of_le (Nat.add_lt_add_left hr (8*q)) (Nat.mul_le_mul_left 8 hq)),
    Bool.true_and]
  by_cases h : q = 7 - i
  · rw [decide_eq_true h, h, Nat.add_sub_cancel_left, decide_eq_true hr,
      decide_eq_false (Nat.not_lt.mpr (Nat.le_add_right _ _)), Bool.and_true]
    rfl
  · rw [decide_eq_false h, Bool.false_and]
    by_cases h1 : 8*q + r < 8*(7-i)
    · rw [decide_eq_true h1]; rfl
    · rw [decide_eq_false (show ¬ 8*q + r - 8*(7-i) < 8 by omega), Bool.and_false, Bool.and_false]

theorem xor56 : ∀ s : Sq, s.val ^^^ 56 = 8 * (7 - s.val / 8) + s.val % 8 := by decide

theorem getLsbD_swapBytes (b : BB) (s : Sq) :
    (swapBytes b).getLsbD s.val = b.getLsbD (s.val ^^^ 56) := by
  have hq : s.val / 8 < 8 := Nat.div_lt_of_lt_mul s.isLt
  have hr : s.val % 8 < 8 := Nat.mod_lt _ (by decide)
  unfold swapBytes
  rw [getLsbD_foldl_or (fun i => ((b >>> (8*i)) &&& 0xFF#64) <<< (8*(7-i))), xor56,
    BitVec.getLsbD_zero, Bool.false_or, Bool.eq_iff_iff, List.any_eq_true]
  conv => lhs; rw [← Nat.div_add_mod s.val 8]
  constructor
  · rintro ⟨i, hi, h⟩
    rw [getLsbD_swapTerm b i _ _ (List.mem_range.mp hi) hq hr, Bool.and_eq_true, decide_eq_true_eq] at h
    rw [h.1, Nat.sub_sub_self (Nat.le_of_lt_succ (List.mem_range.mp hi))]
    exact h.2
  · intro h
    have hi : 7 - s.val / 8 < 8 := Nat.lt_succ_of_le (Nat.sub_le _ _)
    refine ⟨7 - s.val / 8, List.mem_range.mpr hi, ?_⟩
    rw [getLsbD_swapTerm b _ _ _ hi hq hr,
      decide_eq_true (Nat.sub_sub_self (Nat.le_of_lt_succ hq)).symm, Bool.true_and]
    exact h

end BB

/-! ### single-bit boards -/

theorem popcnt_ofSq (s : Sq) : (BB.ofSq s).popcnt = 1 := by
  unfold BB.popcnt
  simp only [BB.getLsbD_ofSq]
  rw [List.filter_eq, List.length_replicate, List.count_range, if_pos s.isLt]

theorem bit_of_popcnt_one {x : BB} (h : x.popcnt = 1) (i : Nat) :
    x.getLsbD i = decide (i = x.toSq.val) := by
  rw [← BB.getLsbD_ofSq, BB.ofSq_toSq x h]

theorem eq_ofSq_of_popcnt_one {x : BB} (h : x.popcnt = 1) (s : Sq) (hs : x.getLsbD s.val = true) : x = BB.ofSq s := by
  have e := BB.ofSq_toSq x h
  rw [← e, BB.getLsbD_ofSq] at hs
  rw [Fin.ext (of_decide_eq_true hs), e]

theorem eq_ofSq_of_bits {x : BB} {y : Sq} (h : ∀ z : Sq, x.getLsbD z.val = true ↔ z = y) : x = BB.ofSq y :=
  BB.ext fun z => by rw [Bool.eq_iff_iff, h, BB.getLsbD_ofSq_val, decide_eq_true_eq]

theorem popcnt_one_iff_bits {x : BB} {y : Sq} :
    (x.popcnt = 1 ∧ x.getLsbD y.val = true) ↔ ∀ z : Sq, x.getLsbD z.val = true ↔ z = y := by
  constructor
  · rintro ⟨h1, hy⟩ z
    rw [eq_ofSq_of_popcnt_one h1 y hy, BB.getLsbD_ofSq_val, decide_eq_true_eq]
  · intro h
    rw [eq_ofSq_of_bits h]
    exact ⟨popcnt_ofSq y, BB.getLsbD_ofSq_self y⟩

/-! ### membership tests as the code writes them -/

theorem and_ofSq_eq_zero_iff (x : BB) (s : Sq) : (x &&& BB.ofSq s = 0#64) ↔ x.getLsbD s.val = false := by
  rw [BB.and_ofSq]; cases x.getLsbD s.val <;> simp [BB.ofSq_ne_zero]

theorem and_ofSq_ne_zero_iff (x : BB) (s : Sq) : (x &&& BB.ofSq s ≠ 0#64) ↔ x.getLsbD s.val = true := by
  rw [Ne, and_ofSq_eq_zero_iff, Bool.not_eq_false]

theorem and_ofSq_eq_self_iff (x : BB) (s : Sq) : (x &&& BB.ofSq s = BB.ofSq s) ↔ x.getLsbD s.val = true := by
  rw [BB.and_ofSq]; cases x.getLsbD s.val <;> simp [(BB.ofSq_ne_zero s).symm]

end Chess
