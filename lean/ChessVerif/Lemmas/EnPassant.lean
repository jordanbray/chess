import ChessVerif.Lemmas.KingMoves
import ChessVerif.Lemmas.PseudoBits
import ChessVerif.Lemmas.Entries
import ChessVerif.Lemmas.CheckPin
/-!
# The en-passant part of C01

`PawnType::legal_ep_move` (model: `MoveGen.legalEpMove`) and the en-passant section of
`PawnType::legals` against the specification (`pseudoLegal`'s en-passant disjunct, `apply` with its
`epVictim`, `legal`), on positions whose en-passant mark satisfies `epValid`.

* `epFacts_of_epValid` — `epValid` as propositions (`EpFacts`);
* `ep_source_iff` — the sources `rank(ep) & adjacent_files(ep) & my pawns` with destination
  `ep.uforward(stm)` and no promotion are exactly the pseudo-legal en-passant captures;
* `leapers_do_not_check` — an enemy knight, pawn or king attacking the mover's king can only be the
  pawn that has just made the double step;
* `legalEpMove_iff` — `legal_ep_move` answers `true` iff the capture is legal;
* `ep_entry_iff`, `noEpClash` — the packages for the assembly of C01.
-/
namespace Chess
namespace EnPassant

open PinCheck (KingAt leaperAtt sliderAligned)

/-- the content of `epValid p` when the mark is `q`: `mid` is the square passed over, `org` the start
square of the pushed pawn -/
structure EpFacts (p : Pos) (q mid org : Sq) : Prop where
  pawn : p.board q = some (.pawn, p.stm.other)
  rank : q.rank = p.stm.other.pawnRank + 2 * p.stm.other.fwd
  midF : mid.file = q.file
  midR : mid.rank = q.rank - p.stm.other.fwd
  orgF : org.file = q.file
  orgR : org.rank = p.stm.other.pawnRank
  midE : p.board mid = none
  orgE : p.board org = none
  pred : inCheck (predPos p q org) p.stm = false

theorem epFacts_of_epValid {p : Pos} {q : Sq} (h : epValid p = true) (hq : p.ep = some q) :
    ∃ mid org, EpFacts p q mid org := by
  rw [Closure.epValid_eq, hq] at h
  simp only [Bool.and_eq_true, beq_iff_eq, Pos.has] at h
  obtain ⟨⟨h1, h2⟩, h3⟩ := h
  split at h3
  · rename_i mid org hm ho
    simp only [Bool.and_eq_true, Bool.not_eq_true', empty_iff] at h3
    have hm' := sq?_eq_some.mp hm
    have ho' := sq?_eq_some.mp ho
    exact ⟨mid, org, h1, h2, hm'.1, hm'.2, ho'.1, ho'.2, h3.1.1, h3.1.2, h3.2⟩
  · cases h3

/-- the marked square is on the fifth rank of the side to move (index 4 for white, 3 for black), so the
capturing pawn neither stands on its last rank nor reaches it -/
theorem ep_geom (c : Color) (q : Sq) (hr : q.rank = c.other.pawnRank + 2 * c.other.fwd) :
    q.rank ≠ c.lastRank ∧ q.rank + c.fwd ≠ c.lastRank := by
  cases c
  · have hr : q.rank = 4 := hr
    rw [hr]; decide
  · have hr : q.rank = 3 := hr
    rw [hr]; decide

/-- the destination `ep.uforward(stm)` is the square passed over -/
theorem epDest_coord {p : Pos} {q mid org : Sq} (hf : EpFacts p q mid org) :
    (q.uforward p.stm).file = q.file ∧ (q.uforward p.stm).rank = q.rank + p.stm.fwd ∧
      q.uforward p.stm = mid := by
  have e1 := Sq.uforward_file q p.stm
  have e2 := Sq.uforward_rank q p.stm (ep_geom p.stm q hf.rank).1
  refine ⟨e1, e2, Sq.ext_coord ?_ ?_⟩
  · rw [e1, hf.midF]
  · rw [e2, hf.midR, Color.other_fwd]; omega

/-! ### leapers do not give check (except the pushed pawn) -/

theorem predPos_board (p : Pos) (q org s : Sq) :
    (predPos p q org).board s =
      if s = org then some (.pawn, p.stm.other) else if s = q then none else p.board s := by
  unfold predPos
  simp only [beq_iff_eq]

theorem predPos_kingAt {p : Pos} {q mid org k : Sq} (hf : EpFacts p q mid org) (hK : KingAt p p.stm k) :
    KingAt (predPos p q org) p.stm k := by
  have hbk := (hK k).mpr rfl
  have hko : k ≠ org := fun e => by rw [e, hf.orgE] at hbk; cases hbk
  have hkq : k ≠ q := fun e => by rw [e, hf.pawn] at hbk; cases hbk
  refine hK.move (by rw [predPos_board, if_neg hko, if_neg hkq]; exact hbk) fun s hne hs => ?_
  rw [predPos_board] at hs
  split at hs
  · cases hs
  · split at hs
    · cases hs
    · exact ⟨hne, hs⟩

theorem leapers_do_not_check {p : Pos} {q mid org k : Sq} (hf : EpFacts p q mid org)
    (hK : KingAt p p.stm k) {x : Sq} (hx : p.colorAt x = some p.stm.other)
    (hl : leaperAtt (p.board x) x k = true) : x = q := by
  apply Classical.byContradiction
  intro hne
  obtain ⟨pc, hbx⟩ := (colorAt_iff p x _).mp hx
  have hxo : x ≠ org := fun e => by rw [e, hf.orgE] at hbx; cases hbx
  have hpx : (predPos p q org).board x = p.board x := by rw [predPos_board, if_neg hxo, if_neg hne]
  have hic := hf.pred
  rw [KingMoves.inCheck_eq (predPos_kingAt hf hK), ← Bool.not_eq_true, KingMoves.attackedBy_iff] at hic
  refine hic ⟨x, ?_, ?_⟩
  · unfold Pos.colorAt; rw [hpx]; exact hx
  · rw [PinCheck.attacks_eq, hpx, hl, Bool.or_true]

/-! ### pseudo-legal en-passant captures -/

theorem ep_move_facts {p : Pos} {m : Move} (hpl : pseudoLegal p m = true) (hep : isEnPassant p m = true) :
    p.board m.src = some (.pawn, p.stm) ∧ p.board m.dst = none ∧
      (m.dst.file - m.src.file).natAbs = 1 ∧ m.dst.rank - m.src.rank = p.stm.fwd ∧
      (m.dst.rank ≠ p.stm.lastRank → m.promo = none) ∧
      ∃ q, sq? m.dst.file m.src.rank = some q ∧ p.ep = some q ∧ p.board q = some (.pawn, p.stm.other) := by
  obtain ⟨pc, hs, _⟩ := Chess.pseudoLegal_src hpl
  have hpc : pc = .pawn := by
    unfold isEnPassant at hep
    rw [hs] at hep
    cases pc <;> simp at hep ⊢
  subst hpc
  obtain ⟨hf, hd⟩ := (isEnPassant_pawn hs).mp hep
  obtain ⟨hpr, hk⟩ := Chess.pseudoLegal_pawn hpl hs
  rcases hk with ⟨a, _, _⟩ | ⟨a, _⟩ | ⟨_, _, x, hx⟩ | ⟨a, b, c, d⟩
  · exact absurd (by omega) hf
  · exact absurd (by omega) hf
  · rw [hd] at hx; cases hx
  · exact ⟨hs, hd, a, b, hpr, d⟩

/-- bit `src` of `rank(ep) & adjacent_files(ep) & my pawns` -/
theorem epSources_bit {T : Tables} (hT : TablesOK T) {b : Board} (hs : Struct b) (q src : Sq) :
    (Entries.epSources T b q).getLsbD src.val = true ↔
      (src.rank = q.rank ∧ (src.file - q.file).natAbs = 1 ∧ b.content src = some (.pawn, b.stm)) := by
  unfold Entries.epSources Entries.own
  rw [BitVec.getLsbD_and, BitVec.getLsbD_and, BitVec.getLsbD_and, hT.ranks, hT.adjFiles, mem_ranks,
    mem_adjFiles, hs.content_some_iff]
  simp only [Bool.and_eq_true, beq_iff_eq, Board.pbit, Board.cbit]
  have e1 : (q.getRank.val : Int) = q.rank := rfl
  have e2 : (q.getFile.val : Int) = q.file := rfl
  have e3 : src.rank = (src.rankN : Int) := rfl
  rw [e2]
  constructor
  · rintro ⟨⟨h1, h2⟩, h3, h4⟩
    exact ⟨by omega, h2, h3, h4⟩
  · rintro ⟨h1, h2, h3, h4⟩
    exact ⟨⟨by omega, h2⟩, h3, h4⟩

/-- the en-passant sources with the destination `ep.uforward(stm)` and no promotion are exactly
the pseudo-legal en-passant captures of the specification.  Uses of `epValid`: the marked square holds
an enemy pawn, the square passed over is empty, and the rank clause (the destination is not on the last
rank, so `uforward` does not wrap and there is no promotion). -/
theorem ep_source_iff {T : Tables} (hT : TablesOK T) {b : Board} (hs : Struct b)
    (hv : epValid b.abs = true) {q : Sq} (hq : b.ep = some q) (m : Move) :
    ((Entries.epSources T b q).getLsbD m.src.val = true ∧ m.dst = Entries.epDest b q ∧ m.promo = none) ↔
      (pseudoLegal b.abs m = true ∧ isEnPassant b.abs m = true) := by
  obtain ⟨mid, org, hf⟩ := epFacts_of_epValid hv (show b.abs.ep = some q from hq)
  obtain ⟨d1, d2, d3⟩ := epDest_coord hf
  have g2 := (ep_geom b.abs.stm q hf.rank).2
  rw [epSources_bit hT hs]
  constructor
  · rintro ⟨⟨s1, s2, s3⟩, hd, hp⟩
    have hsrc : b.abs.board m.src = some (.pawn, b.abs.stm) := by rw [abs_board]; exact s3
    obtain ⟨src, dst, pr⟩ := m
    simp only at s1 s2 s3 hd hp hsrc
    subst hp
    rw [PseudoBits.pseudoLegal_pawn_ep hsrc]
    have hdc : dst.file = q.file ∧ dst.rank = q.rank + b.abs.stm.fwd := by
      rw [hd]; exact ⟨d1, d2⟩
    have hsq : sq? dst.file src.rank = some q := sq?_eq_some.mpr ⟨hdc.1.symm, s1.symm⟩
    have hde : b.abs.board dst = none := by
      rw [hd]; show b.abs.board (q.uforward b.abs.stm) = none
      rw [d3]; exact hf.midE
    constructor
    · unfold PseudoBits.epClause
      simp only [hsq, Bool.and_eq_true, beq_iff_eq, Pos.empty, Pos.has, hde, hf.pawn, Option.isNone_none,
        and_true]
      refine ⟨⟨?_, ?_⟩, hq⟩
      · rw [hdc.1, ← Int.neg_sub, Int.natAbs_neg]; exact s2
      · rw [hdc.2, s1]; exact Int.sub_eq_iff_eq_add'.mpr rfl
    · rw [PseudoBits.promoShape_iff, if_neg (by rw [hdc.2]; exact g2)]
  · rintro ⟨hpl, hep⟩
    obtain ⟨f1, f2, f3, f4, f5, q', f6, f7, f8⟩ := ep_move_facts hpl hep
    have hqq : q' = q := by
      have : b.abs.ep = some q := hq
      rw [this] at f7; exact (Option.some.inj f7).symm
    subst hqq
    obtain ⟨c1, c2⟩ := sq?_eq_some.mp f6
    have hr : m.dst.rank = q'.rank + b.abs.stm.fwd := by rw [c2, ← f4, Int.add_comm, Int.sub_add_cancel]
    refine ⟨⟨c2.symm, ?_, by rw [← abs_board]; exact f1⟩,
      Sq.ext_coord (c1.symm.trans d1.symm) (hr.trans d2.symm), f5 (by rw [hr]; exact g2)⟩
    rw [c1, ← Int.neg_sub, Int.natAbs_neg]; exact f3

/-! ### the position after an en-passant capture -/

/-- the context of the legality argument: `m` is an en-passant capture (without promotion) of the pawn on
`q`, and `k` is the square of the mover's only king -/
structure EpCtx (p : Pos) (m : Move) (k q : Sq) : Prop where
  king : KingAt p p.stm k
  src : p.board m.src = some (.pawn, p.stm)
  dst : p.board m.dst = none
  vic : p.board q = some (.pawn, p.stm.other)
  hq : sq? m.dst.file m.src.rank = some q
  promo : m.promo = none
  isEp : isEnPassant p m = true

namespace EpCtx
variable {p : Pos} {m : Move} {k q : Sq}

theorem src_ne_dst (h : EpCtx p m k q) : m.src ≠ m.dst := by
  intro e; have := h.src; rw [e, h.dst] at this; cases this
theorem q_ne_dst (h : EpCtx p m k q) : q ≠ m.dst := by
  intro e; have := h.vic; rw [e, h.dst] at this; cases this
theorem q_ne_src (h : EpCtx p m k q) : q ≠ m.src := by
  intro e; have := h.vic; rw [e, h.src] at this
  exact Color.other_ne p.stm (Prod.mk.inj (Option.some.inj this)).2.symm
theorem board_king (h : EpCtx p m k q) : p.board k = some (.king, p.stm) := (h.king k).mpr rfl
theorem k_ne_dst (h : EpCtx p m k q) : k ≠ m.dst := by
  intro e; have := h.board_king; rw [e, h.dst] at this; cases this
theorem k_ne_src (h : EpCtx p m k q) : k ≠ m.src := by
  intro e; have := h.board_king; rw [e, h.src] at this; cases this
theorem k_ne_q (h : EpCtx p m k q) : k ≠ q := by
  intro e; have := h.board_king; rw [e, h.vic] at this; cases this

theorem after_board (h : EpCtx p m k q) (t : Sq) :
    (apply p m).board t =
      if t = m.dst then some (.pawn, p.stm) else if t = m.src then none else if t = q then none
      else p.board t := by
  have hc : isCastle p m = false := isCastle_not_king h.src (by decide)
  rw [Chess.apply_board_ep hc h.isEp h.hq]
  have : PinCheck.movedMan p m = some (.pawn, p.stm) := by
    rw [movedMan_eq h.src, finalMan_of_no_promo fun _ => h.promo]
  rw [this]

theorem after_other (h : EpCtx p m k q) {t : Sq} (h1 : t ≠ m.dst) (h2 : t ≠ m.src) (h3 : t ≠ q) :
    (apply p m).board t = p.board t := by
  rw [h.after_board, if_neg h1, if_neg h2, if_neg h3]

theorem after_king (h : EpCtx p m k q) : KingAt (apply p m) p.stm k := by
  refine h.king.move ?_ fun t hne ht => ?_
  · rw [h.after_other h.k_ne_dst h.k_ne_src h.k_ne_q]; exact h.board_king
  · rw [h.after_board] at ht
    split at ht
    · cases ht
    · split at ht
      · cases ht
      · split at ht
        · cases ht
        · exact ⟨hne, ht⟩

theorem after_enemy (h : EpCtx p m k q) (x : Sq) (pc : Piece) :
    (apply p m).board x = some (pc, p.stm.other) ↔ x ≠ q ∧ p.board x = some (pc, p.stm.other) := by
  have hne : (some (Piece.pawn, p.stm) = some (pc, p.stm.other)) ↔ False :=
    ⟨fun e => Color.other_ne p.stm (Prod.mk.inj (Option.some.inj e)).2.symm, False.elim⟩
  rw [h.after_board]
  split
  · next e => rw [e, h.dst, hne]; exact ⟨False.elim, fun e => nomatch e.2⟩
  · split
    · next e => rw [e, h.src, hne]; exact ⟨nofun, fun e => e.2.elim⟩
    · split
      · next e => exact ⟨nofun, fun e' => (e'.1 e).elim⟩
      · next e => exact ⟨fun e' => ⟨e, e'⟩, fun e' => e'.2⟩

/-- **the mover is in check after the capture iff an enemy slider reaches the king in the new
occupancy**: by `hleap` no enemy knight, pawn or king other than the captured pawn attacks the king -/
theorem after_inCheck (h : EpCtx p m k q)
    (hleap : ∀ x, p.colorAt x = some p.stm.other → leaperAtt (p.board x) x k = true → x = q) :
    inCheck (apply p m) p.stm = true ↔
      ∃ x, p.colorAt x = some p.stm.other ∧ sliderAligned (p.board x) x k = true ∧
        pathClear (apply p m) x k = true := by
  rw [KingMoves.inCheck_eq h.after_king, KingMoves.attackedBy_iff]
  refine exists_congr fun x => ?_
  constructor
  · rintro ⟨hx, ha⟩
    obtain ⟨pc, hb⟩ := (colorAt_iff _ x _).mp hx
    obtain ⟨hxq, hb0⟩ := (h.after_enemy x pc).mp hb
    have hx0 := colorAt_of_board hb0
    rw [PinCheck.attacks_eq, hb, ← hb0, Bool.or_eq_true, Bool.and_eq_true] at ha
    exact ⟨hx0, ha.resolve_right fun hl => hxq (hleap x hx0 hl)⟩
  · rintro ⟨hx, hal, hpc⟩
    obtain ⟨pc, hb⟩ := (colorAt_iff p x _).mp hx
    have hxq : x ≠ q := fun e => by rw [e, h.vic] at hal; cases hal
    have hb' := (h.after_enemy x pc).mpr ⟨hxq, hb⟩
    exact ⟨colorAt_of_board hb', by rw [PinCheck.attacks_eq, hb', ← hb, hal, hpc]; rfl⟩

end EpCtx

/-! ### `legal_ep_move`, the code side -/

/-- `combined ^ from_square(ep) ^ from_square(source) ^ from_square(dest)` -/
def epOcc (b : Board) (q src dst : Sq) : BB := b.combined ^^^ BB.ofSq q ^^^ BB.ofSq src ^^^ BB.ofSq dst

theorem epOcc_has {b : Board} (hs : Struct b) {m : Move} {k q : Sq} (h : EpCtx b.abs m k q) (z : Sq) :
    (epOcc b q m.src m.dst).has z = !(apply b.abs m).empty z := by
  have hocc := PseudoBits.occ_bridge hs
  unfold epOcc BB.has Pos.empty at *
  rw [BitVec.getLsbD_xor, BitVec.getLsbD_xor, BitVec.getLsbD_xor, BB.getLsbD_ofSq_val, BB.getLsbD_ofSq_val, BB.getLsbD_ofSq_val,
    h.after_board, hocc]
  by_cases h1 : z = m.dst
  · subst h1; simp [h.dst, h.q_ne_dst.symm, h.src_ne_dst.symm]
  · by_cases h2 : z = m.src
    · subst h2; simp [h1, h.src, h.q_ne_src.symm]
    · by_cases h3 : z = q
      · subst h3; simp [h1, h2, h.vic]
      · simp [h1, h2, h3]

/-- the slider part of an attacker set (enemy rooks, bishops and queens that reach `k` through the
occupancy `occ`), read on a position `q` whose non-empty squares are `occ` -/
theorem sliders_bit {T : Tables} (hT : TablesOK T) {b : Board} (hs : Struct b) (q : Pos) (occ : BB)
    (hocc : ∀ z, occ.has z = !q.empty z) (k x : Sq) :
    ((T.rookMoves k occ &&& ((b.pieces .rook ||| b.pieces .queen) &&& b.colorCombined b.stm.other)) |||
      (T.bishopMoves k occ &&& ((b.pieces .bishop ||| b.pieces .queen) &&& b.colorCombined b.stm.other))).getLsbD
        x.val =
      (b.abs.colorAt x == some b.stm.other && sliderAligned (b.abs.board x) x k && pathClear q x k) := by
  have hr : (Geom.rookWalk k occ).getLsbD x.val = _ :=
    KingMoves.walk_slides rookDirs (fun _ => Dir.opp_mem_rookDirs) q occ hocc k x
  have hb : (Geom.bishopWalk k occ).getLsbD x.val = _ :=
    KingMoves.walk_slides bishopDirs (fun _ => Dir.opp_mem_bishopDirs) q occ hocc k x
  simp only [BitVec.getLsbD_or, BitVec.getLsbD_and, hT.rookMoves, hT.bishopMoves, hr, hb]
  unfold slides Pos.colorAt
  rw [abs_board]
  cases hc : b.content x with
  | none =>
    simp only [(CheckPin.bits_of_content_none hs hc).2.1, Bool.and_false, Bool.or_false]
    rfl
  | some v =>
    obtain ⟨pc, c⟩ := v
    obtain ⟨hp, hcc, _⟩ := CheckPin.bits_of_content_some hs hc
    simp only [hp, hcc]
    by_cases hce : b.stm.other = c
    · subst hce
      cases pc <;> simp [sliderAligned, aligned_allDirs]
      cases aligned rookDirs x k <;> cases aligned bishopDirs x k <;> cases pathClear q x k <;> rfl
    · simp [hce, Ne.symm hce]

/-- `legal_ep_move` answers `true` iff neither slider test fires; the `rays & sliders ≠ 0` pre-tests are
implied by the walk tests -/
theorem legalEpMove_eq_some_true {T : Tables} (hT : TablesOK T) (b : Board) {q : Sq} (hq : b.ep = some q)
    (src dst : Sq) :
    MoveGen.legalEpMove T b src dst = some true ↔
      (T.rookMoves (b.kingSquare b.stm) (epOcc b q src dst) &&&
          ((b.pieces .rook ||| b.pieces .queen) &&& b.colorCombined b.stm.other)) |||
        (T.bishopMoves (b.kingSquare b.stm) (epOcc b q src dst) &&&
          ((b.pieces .bishop ||| b.pieces .queen) &&& b.colorCombined b.stm.other)) = 0#64 := by
  have hray : ∀ (ds : List Dir) (k : Sq) (occ sl : BB),
      Geom.sliderWalk ds k occ &&& sl ≠ 0#64 → Geom.sliderWalk ds k 0#64 &&& sl ≠ 0#64 := by
    intro ds k occ sl h
    rw [BB.ne_zero_iff] at h ⊢
    obtain ⟨z, hz⟩ := h
    rw [BitVec.getLsbD_and, Bool.and_eq_true] at hz
    exact ⟨z, by rw [BitVec.getLsbD_and, sliderWalk_subset_rays hz.1, hz.2]; rfl⟩
  have hR := hray rookDirs (b.kingSquare b.stm) (epOcc b q src dst)
    ((b.rooks ||| b.queens) &&& b.colorCombined b.stm.other)
  have hB := hray bishopDirs (b.kingSquare b.stm) (epOcc b q src dst)
    ((b.bishops ||| b.queens) &&& b.colorCombined b.stm.other)
  unfold MoveGen.legalEpMove
  rw [hq]
  simp only [hT.rookRays, hT.bishopRays, hT.rookMoves, hT.bishopMoves]
  show (if _ then some false else if _ then some false else some true) = some true ↔ _
  rw [BitVec.or_eq_zero_iff]
  split
  · next h1 => exact ⟨nofun, fun e => absurd e.1 h1.2⟩
  · next h1 =>
    split
    · next h2 => exact ⟨nofun, fun e => absurd e.2 h2.2⟩
    · next h2 =>
      exact ⟨fun _ => ⟨Classical.byContradiction fun e => h1 ⟨hR e, e⟩,
        Classical.byContradiction fun e => h2 ⟨hB e, e⟩⟩, fun _ => rfl⟩

theorem epCtx_of_capture {T : Tables} (hT : TablesOK T) {b : Board} (hs : Struct b) (h1 : KingMoves.OneKing b)
    (hv : epValid b.abs = true) {m : Move} (hpl : pseudoLegal b.abs m = true)
    (hep : isEnPassant b.abs m = true) :
    ∃ q mid org, b.ep = some q ∧ EpFacts b.abs q mid org ∧ EpCtx b.abs m (b.kingSquare b.stm) q ∧
      m.dst = mid := by
  obtain ⟨f1, f2, _, _, _, q, f6, f7, f8⟩ := ep_move_facts hpl hep
  obtain ⟨mid, org, hf⟩ := epFacts_of_epValid hv f7
  obtain ⟨_, hd, hpr⟩ := (ep_source_iff hT hs hv f7 m).mpr ⟨hpl, hep⟩
  exact ⟨q, mid, org, f7, hf, ⟨h1.kingAt hs, f1, f2, f8, f6, hpr, hep⟩, hd.trans (epDest_coord hf).2.2⟩

/-- `legal_ep_move` answers `true` iff the en-passant capture is legal.  Hypotheses: correct
tables, the structural invariant, exactly one king of the mover, and `epValid` (used through
`leapers_do_not_check`: the code does not look at knights, pawns and kings). -/
theorem legalEpMove_iff {T : Tables} (hT : TablesOK T) {b : Board} (hs : Struct b) (h1 : KingMoves.OneKing b)
    (hv : epValid b.abs = true) {m : Move} (hpl : pseudoLegal b.abs m = true)
    (hep : isEnPassant b.abs m = true) :
    MoveGen.legalEpMove T b m.src m.dst = some true ↔ legal b.abs m = true := by
  obtain ⟨q, mid, org, hq, hf, hctx, _⟩ := epCtx_of_capture hT hs h1 hv hpl hep
  unfold legal
  rw [legalEpMove_eq_some_true hT b hq, BB.eq_zero_iff, hpl, Bool.true_and, Bool.not_eq_true',
    ← Bool.not_eq_true, hctx.after_inCheck fun x hx hl => leapers_do_not_check hf hctx.king hx hl, not_exists]
  refine forall_congr' fun x => ?_
  rw [sliders_bit hT hs _ _ (epOcc_has hs hctx), ← Bool.not_eq_true, Bool.and_eq_true, Bool.and_eq_true,
    beq_iff_eq, and_assoc]
  rfl

theorem ep_entry_iff {T : Tables} (hT : TablesOK T) {b : Board} (hs : Struct b) (h1 : KingMoves.OneKing b)
    (hv : epValid b.abs = true) {q : Sq} (hq : b.ep = some q) (m : Move) :
    ((Entries.epSources T b q).getLsbD m.src.val = true ∧
        MoveGen.legalEpMove T b m.src (Entries.epDest b q) = some true ∧
        m.dst = Entries.epDest b q ∧ m.promo = none) ↔
      (legal b.abs m = true ∧ isEnPassant b.abs m = true) := by
  have hsrc := ep_source_iff hT hs hv hq m
  constructor
  · rintro ⟨a, c, d, e⟩
    obtain ⟨hpl, hep⟩ := hsrc.mp ⟨a, d, e⟩
    rw [← d] at c
    exact ⟨(legalEpMove_iff hT hs h1 hv hpl hep).mp c, hep⟩
  · rintro ⟨hl, hep⟩
    have hpl : pseudoLegal b.abs m = true := Closure.legal_pseudo hl
    obtain ⟨a, d, e⟩ := hsrc.mpr ⟨hpl, hep⟩
    refine ⟨a, ?_, d, e⟩
    rw [← d]
    exact (legalEpMove_iff hT hs h1 hv hpl hep).mpr hl

/-- the en-passant destination is not an ordinary destination of the capturing pawn: it is an empty
square (no capture) on another file (no push) -/
theorem noEpClash_pseudo {T : Tables} (hT : TablesOK T) {b : Board} (hs : Struct b)
    (hv : epValid b.abs = true) (q src : Sq) (hq : b.ep = some q)
    (hsrc : (Entries.epSources T b q).getLsbD src.val = true) :
    (MoveGen.pseudoLegals T .pawn src b.stm b.combined (Entries.ownMask b)).getLsbD (Entries.epDest b q).val
      = false := by
  obtain ⟨mid, org, hf⟩ := epFacts_of_epValid hv (show b.abs.ep = some q from hq)
  obtain ⟨d1, d2, d3⟩ := epDest_coord hf
  obtain ⟨s1, s2, s3⟩ := (epSources_bit hT hs q src).mp hsrc
  rw [Bool.eq_false_iff]
  intro hbit
  unfold Entries.ownMask at hbit
  rw [PseudoBits.pawn_bits hT hs, PseudoBits.pawnStd_iff] at hbit
  have e1 : (Entries.epDest b q).file = q.file := d1
  have e3 : Entries.epDest b q = mid := d3
  rcases hbit with ⟨a, _⟩ | ⟨a, _⟩ | ⟨_, _, a⟩
  · omega
  · omega
  · rw [e3] at a
    obtain ⟨pc, hpc⟩ := (colorAt_iff _ _ _).mp a
    rw [hf.midE] at hpc; cases hpc

theorem noEpClash {T : Tables} (hT : TablesOK T) {b : Board} (hs : Struct b) (hv : epValid b.abs = true)
    (ic : Bool) : Entries.NoEpClash T b ic :=
  Entries.noEpClash_of_pseudo T b (fun q src hq hsrc => noEpClash_pseudo hT hs hv q src hq hsrc) ic

/-- the en-passant disjunct of `Entries.IsMove` is "legal and an en-passant capture" -/
theorem ep_section_iff {T : Tables} (hT : TablesOK T) {b : Board} (hs : Struct b) (h1 : KingMoves.OneKing b)
    (hv : epValid b.abs = true) (m : Move) :
    (∃ epSq : Sq, b.ep = some epSq ∧ (Entries.epSources T b epSq).getLsbD m.src.val = true ∧
        MoveGen.legalEpMove T b m.src (Entries.epDest b epSq) = some true ∧
        m.dst = Entries.epDest b epSq ∧ m.promo = none) ↔
      (legal b.abs m = true ∧ isEnPassant b.abs m = true) := by
  constructor
  · rintro ⟨q, hq, h⟩
    exact (ep_entry_iff hT hs h1 hv hq m).mp h
  · rintro ⟨hl, hep⟩
    obtain ⟨q, _, _, hq, _⟩ := epCtx_of_capture hT hs h1 hv (Closure.legal_pseudo hl) hep
    exact ⟨q, hq, (ep_entry_iff hT hs h1 hv hq m).mpr ⟨hl, hep⟩⟩

theorem leapers_do_not_check_valid {p : Pos} (hv : Valid p = true) {q k : Sq} (hq : p.ep = some q)
    (hk : kingSq? p p.stm = some k) {x : Sq} (hx : p.colorAt x = some p.stm.other)
    (hl : leaperAtt (p.board x) x k = true) : x = q := by
  have hV := (Closure.valid_iff p).mp hv
  obtain ⟨mid, org, hf⟩ := epFacts_of_epValid hV.ep hq
  exact leapers_do_not_check hf (PinCheck.KingAt_of_count hk (hV.king p.stm)) hx hl

end EnPassant
end Chess
