import ChessVerif.Lemmas.Text
import ChessVerif.Spec.Fen
/-!
Lemmas about the FEN writer (`showBuilder`, `impl Display for BoardBuilder`) and the FEN reader
(`parseBuilder`, `BoardBuilder::from_str`) of `ChessVerif/Model/Text.lean`, and about the independent
standard-FEN decoder `Fen.decode` of `ChessVerif/Spec/Fen.lean`.  Used by `Props/C06.lean`.

All statements are for arbitrary builder states (`pieces : Sq → Option (Piece × Color)` arbitrary).
-/
namespace Chess

/-! ### characters -/

theorem letterPiece?_pieceLetter (p : Piece) (c : Color) :
    letterPiece? (pieceLetter p c) = some (p, c) := by
  cases p <;> cases c <;> decide

theorem pieceOfChar?_pieceLetter (p : Piece) (c : Color) :
    Fen.pieceOfChar? (pieceLetter p c) = some (p, c) := by
  cases p <;> cases c <;> decide

theorem pieceLetter_not_digit (p : Piece) (c : Color) :
    ¬ ('1'.toNat ≤ (pieceLetter p c).toNat ∧ (pieceLetter p c).toNat ≤ '8'.toNat) := by
  cases p <;> cases c <;> decide

theorem pieceLetter_ne_slash (p : Piece) (c : Color) : pieceLetter p c ≠ '/' := by
  cases p <;> cases c <;> decide

/-- the optional run-length digit in front of a man or at the end of the rank: nothing for an empty run,
else the single character `'0' + count`, one of `1`..`8` -/
theorem runDigit_spec (count : Nat) (h8 : count ≤ 8) :
    (count = 0 ∧ (if count ≠ 0 then digitChar count else []) = []) ∨
    (∃ d : Char, (if count ≠ 0 then digitChar count else []) = [d] ∧ d ≠ '/' ∧
      '1'.toNat ≤ d.toNat ∧ d.toNat ≤ '8'.toNat ∧ d.toNat - '0'.toNat = count) := by
  have hd : ∀ n : Fin 9, n.val ≠ 0 →
      ∃ d ∈ "12345678".toList, digitChar n.val = [d] ∧ d.toNat - '0'.toNat = n.val := by decide
  have hc : ∀ d ∈ "12345678".toList, d ≠ '/' ∧ '1'.toNat ≤ d.toNat ∧ d.toNat ≤ '8'.toNat := by
    decide
  by_cases h : count = 0
  · exact .inl ⟨h, if_neg (Classical.not_not.2 h)⟩
  · obtain ⟨d, hm, h1, h2⟩ := hd ⟨count, by omega⟩ h
    obtain ⟨h3, h4, h5⟩ := hc d hm
    exact .inr ⟨d, by rw [if_pos h]; exact h1, h3, h4, h5, h2⟩

/-! ### splitting on a separator -/

theorem splitOn_go_append (sep : Char) : ∀ (a cur b : List Char), (∀ c ∈ a, c ≠ sep) →
    Fen.splitOn.go sep (a ++ b) cur = Fen.splitOn.go sep b (a.reverse ++ cur)
  | [], cur, b, _ => rfl
  | x :: xs, cur, b, h => by
    rw [List.cons_append, Fen.splitOn.go, if_neg (h x List.mem_cons_self),
      splitOn_go_append sep xs (x :: cur) b fun c hc => h c (List.mem_cons_of_mem _ hc)]
    simp

theorem splitOn_nosep (sep : Char) (a : List Char) (h : ∀ c ∈ a, c ≠ sep) :
    Fen.splitOn sep a = [a] := by
  have := splitOn_go_append sep a [] [] h
  rw [List.append_nil] at this
  simp [Fen.splitOn, this, Fen.splitOn.go]

theorem splitOn_append (sep : Char) (a rest : List Char) (h : ∀ c ∈ a, c ≠ sep) :
    Fen.splitOn sep (a ++ sep :: rest) = a :: Fen.splitOn sep rest := by
  simp [Fen.splitOn, splitOn_go_append sep a [] _ h, Fen.splitOn.go]

theorem splitSpace_go_eq : ∀ (s cur : List Char), Str.splitSpace.go s cur = Fen.splitOn.go ' ' s cur
  | [], cur => by simp [Str.splitSpace.go, Fen.splitOn.go]
  | x :: xs, cur => by
    rw [Str.splitSpace.go, Fen.splitOn.go, splitSpace_go_eq xs, splitSpace_go_eq xs]

/-- the Model's `split(' ')` is the Spec's splitter at `' '` -/
theorem splitSpace_eq (s : List Char) : Str.splitSpace s = Fen.splitOn ' ' s := by
  unfold Str.splitSpace Fen.splitOn; exact splitSpace_go_eq s []

/-! ### one rank of the placement field -/

variable (pieces : Sq → Option (Piece × Color))

theorem showRank_go_nil (r : Fin 8) (count : Nat) :
    showRank.go pieces r [] count = if count ≠ 0 then digitChar count else [] := by
  rw [showRank.go]

theorem showRank_go_some (r f : Fin 8) (fs : List (Fin 8))
    (count : Nat) (p : Piece) (c : Color) (h : pieces (mkSq r f) = some (p, c)) :
    showRank.go pieces r (f :: fs) count =
      (if count ≠ 0 then digitChar count else []) ++ [pieceLetter p c] ++ showRank.go pieces r fs 0 := by
  rw [showRank.go]; simp only [h]

theorem showRank_go_none (r f : Fin 8) (fs : List (Fin 8))
    (count : Nat) (h : pieces (mkSq r f) = none) :
    showRank.go pieces r (f :: fs) count = showRank.go pieces r fs (count + 1) := by
  rw [showRank.go]; simp only [h]

/-! #### the Spec's rank decoder on the Model's rank text -/

theorem decodeRank_letter (p : Piece) (c : Color) (cs : List Char)
    (acc : List (Option (Piece × Color))) :
    Fen.decodeRank (pieceLetter p c :: cs) acc = Fen.decodeRank cs (acc ++ [some (p, c)]) := by
  rw [Fen.decodeRank,
    if_neg (show ¬ ('1' ≤ pieceLetter p c ∧ pieceLetter p c ≤ '8') from pieceLetter_not_digit p c)]
  simp only [pieceOfChar?_pieceLetter]

theorem decodeRank_runDigit (count : Nat) (h8 : count ≤ 8) (cs : List Char)
    (acc : List (Option (Piece × Color))) :
    Fen.decodeRank ((if count ≠ 0 then digitChar count else []) ++ cs) acc =
      Fen.decodeRank cs (acc ++ List.replicate count none) := by
  rcases runDigit_spec count h8 with ⟨h0, h⟩ | ⟨d, h, _, hl, hu, hn⟩
  · rw [h, h0]; simp
  · rw [h, List.singleton_append, Fen.decodeRank, if_pos (show '1' ≤ d ∧ d ≤ '8' from ⟨hl, hu⟩), hn]

theorem decodeRank_showRank_go (r : Fin 8) :
    ∀ (files : List (Fin 8)) (count : Nat) (acc : List (Option (Piece × Color))),
      count + files.length ≤ 8 →
      Fen.decodeRank (showRank.go pieces r files count) acc =
        Fen.decodeRank [] (acc ++ List.replicate count none ++ files.map fun f => pieces (mkSq r f))
  | [], count, acc, hb => by
    rw [showRank_go_nil, ← List.append_nil (ite ..), decodeRank_runDigit count (by simpa using hb)]
    simp
  | f :: fs, count, acc, hb => by
    simp only [List.length_cons] at hb
    cases hp : pieces (mkSq r f) with
    | none =>
      rw [showRank_go_none _ _ _ _ _ hp, decodeRank_showRank_go r fs (count + 1) acc (by omega)]
      simp [List.replicate_succ', hp]
    | some pc =>
      rw [showRank_go_some _ _ _ _ _ _ _ hp, List.append_assoc,
        decodeRank_runDigit count (by omega), List.singleton_append, decodeRank_letter,
        decodeRank_showRank_go r fs 0 _ (by omega)]
      simp [hp]

theorem decodeRank_showRank (r : Fin 8) :
    Fen.decodeRank (showRank pieces r) [] = some ((List.finRange 8).map fun f => pieces (mkSq r f)) := by
  unfold showRank
  rw [decodeRank_showRank_go pieces r _ 0 [] (by simp), Fen.decodeRank]
  simp

/-- a text the standard rank decoder accepts (digits `1`..`8` and piece letters only) holds neither
`' '` nor `'/'` -/
theorem decodeRank_chars : ∀ (s : List Char) (acc rows : List (Option (Piece × Color))),
    Fen.decodeRank s acc = some rows → ∀ x ∈ s, x ≠ ' ' ∧ x ≠ '/'
  | c :: cs, acc, rows, h, x, hx => by
    rw [Fen.decodeRank] at h
    rcases List.mem_cons.1 hx with rfl | hx
    · constructor <;> rintro rfl <;> simp [Fen.pieceOfChar?] at h
    · split at h
      · exact decodeRank_chars cs _ rows h x hx
      · split at h
        · exact decodeRank_chars cs _ rows h x hx
        · cases h

theorem showRank_chars (r : Fin 8) :
    ∀ x ∈ showRank pieces r, x ≠ ' ' ∧ x ≠ '/' :=
  decodeRank_chars _ _ _ (decodeRank_showRank pieces r)

/-! #### the Model's placement scanner on the Model's rank text -/

theorem parsePlacement_slash (xs : List Char) (st : FenState) :
    parsePlacement ('/' :: xs) st = parsePlacement xs { st with rank := rankDown st.rank, file := 0 } := by
  rw [parsePlacement, if_pos rfl]

theorem parsePlacement_letter (p : Piece) (c : Color) (xs : List Char) (st : FenState) :
    parsePlacement (pieceLetter p c :: xs) st =
      parsePlacement xs { st with
        pieces := fun t => if t = mkSq st.rank st.file then some (p, c) else st.pieces t,
        file := fileRight st.file } := by
  rw [parsePlacement, if_neg (pieceLetter_ne_slash p c), if_neg (pieceLetter_not_digit p c)]
  simp only [letterPiece?_pieceLetter]

theorem parsePlacement_runDigit (count : Nat) (h8 : count ≤ 8) (xs : List Char) (st : FenState) :
    parsePlacement ((if count ≠ 0 then digitChar count else []) ++ xs) st =
      parsePlacement xs { st with file := ⟨(st.file.val + count) % 8, by omega⟩ } := by
  rcases runDigit_spec count h8 with ⟨h0, h⟩ | ⟨d, h, hs, hl, hu, hn⟩
  · rw [h]; subst h0
    have : (⟨(st.file.val + 0) % 8, by omega⟩ : Fin 8) = st.file := Fin.ext (by simp)
    simp only [List.nil_append, this]
  · rw [h, List.singleton_append, parsePlacement, if_neg hs, if_pos ⟨hl, hu⟩]
    simp only [hn]

theorem sq_eq_mkSq_iff (t : Sq) (r f : Fin 8) : t = mkSq r f ↔ t.getRank = r ∧ t.getFile = f := by
  constructor
  · rintro rfl; exact ⟨getRank_mkSq r f, getFile_mkSq r f⟩
  · rintro ⟨rfl, rfl⟩; exact (mkSq_getRank_getFile t).symm

/-- the files of a rank from file `p` to file 7, in order -/
def consec : Nat → List (Fin 8) → Bool
  | p, [] => p == 8
  | p, f :: fs => f.val == p && consec (p + 1) fs

/-- Scanning the text produced by the writer's file loop from file `p` on (with `count` empty squares
pending, the scanner's cursor standing `count` files before `p`): exactly the squares of rank `r`
on the files still to come that hold a man are written, the cursor ends at file 0 (wrapped), same rank. -/
theorem parsePlacement_showRank_go (r : Fin 8) :
    ∀ (files : List (Fin 8)) (p count : Nat) (st : FenState) (rest : List Char),
      consec p files = true → count ≤ p → st.rank = r → (st.file.val + count) % 8 = p % 8 →
      ∃ st' : FenState,
        parsePlacement (showRank.go pieces r files count ++ rest) st = parsePlacement rest st' ∧
        st'.rank = r ∧ st'.file = 0 ∧
        ∀ t, st'.pieces t =
          if t.getRank = r ∧ t.getFile ∈ files then (pieces t).or (st.pieces t) else st.pieces t
  | [], p, count, st, rest, hc, hcp, hr, hf => by
    cases (show p = 8 by simpa [consec] using hc)
    rw [showRank_go_nil, parsePlacement_runDigit count hcp]
    exact ⟨_, rfl, hr, Fin.ext hf, fun t => by simp⟩
  | f :: fs, p, count, st, rest, hc, hcp, hr, hf => by
    simp only [consec, Bool.and_eq_true, beq_iff_eq] at hc
    obtain ⟨hfp, hc⟩ := hc
    have hp8 : p < 8 := hfp ▸ f.isLt
    have hmem : ∀ t : Sq, (t.getRank = r ∧ t.getFile ∈ f :: fs) ↔
        (t = mkSq r f ∨ (t.getRank = r ∧ t.getFile ∈ fs)) := fun t => by
      rw [List.mem_cons, sq_eq_mkSq_iff, and_or_left]
    cases hp : pieces (mkSq r f) with
    | none =>
      rw [showRank_go_none _ _ _ _ _ hp]
      obtain ⟨st', h1, h2, h3, h4⟩ :=
        parsePlacement_showRank_go r fs (p + 1) (count + 1) st rest hc (by omega) hr (by omega)
      refine ⟨st', h1, h2, h3, fun t => ?_⟩
      rw [h4 t]
      simp only [hmem]
      by_cases ht : t = mkSq r f
      · subst ht; simp [hp]
      · simp [ht]
    | some pc =>
      rw [showRank_go_some _ _ _ _ _ _ _ hp, List.append_assoc, List.append_assoc,
        parsePlacement_runDigit count (by omega), List.singleton_append, parsePlacement_letter]
      have hfile : (⟨(st.file.val + count) % 8, by omega⟩ : Fin 8) = f := Fin.ext (by simp only; omega)
      simp only [hfile, hr]
      obtain ⟨st', h1, h2, h3, h4⟩ :=
        parsePlacement_showRank_go r fs (p + 1) 0
          { pieces := fun t => if t = mkSq r f then some pc else st.pieces t,
            rank := r, file := fileRight f } rest hc (by omega) rfl
          (by simp only [fileRight, hfp]; omega)
      refine ⟨st', h1, h2, h3, fun t => ?_⟩
      rw [h4 t]
      simp only [hmem]
      by_cases ht : t = mkSq r f
      · subst ht; simp [hp]
      · simp [ht]

/-! ### the placement field -/

/-- the placement field written by `showBuilderWith`: ranks 8 down to 1, separated by `/` -/
def placementStr (pieces : Sq → Option (Piece × Color)) : List Char :=
  showRank pieces 7 ++ '/' :: (showRank pieces 6 ++ '/' :: (showRank pieces 5 ++ '/' ::
  (showRank pieces 4 ++ '/' :: (showRank pieces 3 ++ '/' :: (showRank pieces 2 ++ '/' ::
  (showRank pieces 1 ++ '/' :: showRank pieces 0))))))

/-- scanner state when the cursor stands at the beginning of rank `r`: the ranks above are done, the
rest still holds the initial `none` -/
def PlInv (r : Fin 8) (st : FenState) : Prop :=
  st.rank = r ∧ st.file = 0 ∧ ∀ t, st.pieces t = if r.val < t.getRank.val then pieces t else none

/-- Scanning the text of rank `r` with the cursor at the beginning of rank `r`: the squares of rank `r`
are set as in `pieces`, nothing else is written, the cursor is back at file 0 of rank `r`. -/
theorem parsePlacement_rank (r : Fin 8) (st : FenState)
    (rest : List Char) (h : PlInv pieces r st) :
    ∃ st', parsePlacement (showRank pieces r ++ rest) st = parsePlacement rest st' ∧
      st'.rank = r ∧ st'.file = 0 ∧
      ∀ t, st'.pieces t = if r.val ≤ t.getRank.val then pieces t else none := by
  obtain ⟨hr, hf, hp⟩ := h
  obtain ⟨st1, h1, h2, h3, h4⟩ :=
    parsePlacement_showRank_go pieces r (List.finRange 8) 0 0 st rest (by decide)
      (Nat.le_refl 0) hr (by rw [hf]; rfl)
  refine ⟨st1, h1, h2, h3, fun t => ?_⟩
  rw [h4 t, hp t]
  by_cases hrk : t.getRank = r
  · simp [hrk, List.mem_finRange]
  · have hne := Fin.val_ne_of_ne hrk
    have : r.val ≤ t.getRank.val ↔ r.val < t.getRank.val := by omega
    simp [hrk, this]

theorem parsePlacement_rank_step (r r' : Fin 8)
    (hrr : r.val = r'.val + 1) (st : FenState) (rest : List Char) (h : PlInv pieces r st) :
    ∃ st', parsePlacement (showRank pieces r ++ '/' :: rest) st = parsePlacement rest st' ∧
      PlInv pieces r' st' := by
  obtain ⟨st1, h1, h2, _, h4⟩ := parsePlacement_rank pieces r st ('/' :: rest) h
  rw [parsePlacement_slash] at h1
  refine ⟨_, h1, Fin.ext ?_, rfl, fun t => ?_⟩
  · simp only [h2, rankDown]; omega
  · show st1.pieces t = _
    rw [h4 t]
    simp only [hrr, Nat.succ_le_iff]

/-- the reader's placement scan of the writer's placement field, started as `from_str` starts it
(all squares empty, cursor on a8), succeeds and yields exactly the written piece map -/
theorem parsePlacement_placementStr :
    ∃ st, parsePlacement (placementStr pieces) ⟨fun _ => none, 7, 0⟩ = some st ∧
      ∀ t, st.pieces t = pieces t := by
  have h7 : PlInv pieces 7 ⟨fun _ => none, 7, 0⟩ :=
    ⟨rfl, rfl, fun t => (if_neg (by have := t.getRank.isLt; show ¬ (7 < _); omega)).symm⟩
  unfold placementStr
  obtain ⟨s6, e7, h6⟩ := parsePlacement_rank_step pieces 7 6 rfl _ _ h7
  obtain ⟨s5, e6, h5⟩ := parsePlacement_rank_step pieces 6 5 rfl _ _ h6
  obtain ⟨s4, e5, h4⟩ := parsePlacement_rank_step pieces 5 4 rfl _ _ h5
  obtain ⟨s3, e4, h3⟩ := parsePlacement_rank_step pieces 4 3 rfl _ _ h4
  obtain ⟨s2, e3, h2⟩ := parsePlacement_rank_step pieces 3 2 rfl _ _ h3
  obtain ⟨s1, e2, h1⟩ := parsePlacement_rank_step pieces 2 1 rfl _ _ h2
  obtain ⟨s0, e1, h0⟩ := parsePlacement_rank_step pieces 1 0 rfl _ _ h1
  obtain ⟨st, e0, _, _, hst⟩ := parsePlacement_rank pieces 0 s0 [] h0
  rw [List.append_nil, parsePlacement] at e0
  exact ⟨st, by rw [e7, e6, e5, e4, e3, e2, e1, e0], fun t => by rw [hst t]; exact if_pos (Nat.zero_le _)⟩

theorem placementStr_no_space :
    ∀ x ∈ placementStr pieces, x ≠ ' ' := by
  have h := fun r x hx => (showRank_chars pieces r x hx).1
  have j : ∀ a b : List Char, (∀ x ∈ a, x ≠ ' ') → (∀ x ∈ b, x ≠ ' ') →
      ∀ x ∈ a ++ '/' :: b, x ≠ ' ' := by
    intro a b ha hb x hx
    rcases List.mem_append.1 hx with hx | hx
    · exact ha x hx
    · rcases List.mem_cons.1 hx with rfl | hx
      · decide
      · exact hb x hx
  exact j _ _ (h 7) (j _ _ (h 6) (j _ _ (h 5) (j _ _ (h 4) (j _ _ (h 3) (j _ _ (h 2)
    (j _ _ (h 1) (h 0)))))))

theorem splitOn_slash_placementStr :
    Fen.splitOn '/' (placementStr pieces) =
      [showRank pieces 7, showRank pieces 6, showRank pieces 5, showRank pieces 4,
       showRank pieces 3, showRank pieces 2, showRank pieces 1, showRank pieces 0] := by
  have h : ∀ r, ∀ c ∈ showRank pieces r, c ≠ '/' := fun r c hc => (showRank_chars pieces r c hc).2
  unfold placementStr
  rw [splitOn_append _ _ _ (h 7), splitOn_append _ _ _ (h 6), splitOn_append _ _ _ (h 5),
    splitOn_append _ _ _ (h 4), splitOn_append _ _ _ (h 3), splitOn_append _ _ _ (h 2),
    splitOn_append _ _ _ (h 1), splitOn_nosep _ _ (h 0)]

theorem finRange64_eq :
    List.finRange 64 = (List.finRange 8).flatMap fun r => (List.finRange 8).map fun f => mkSq r f := by
  decide

theorem decodePlacement_placementStr :
    ∃ board, Fen.decodePlacement (placementStr pieces) = some board ∧ ∀ s, board s = pieces s := by
  unfold Fen.decodePlacement
  simp only [splitOn_slash_placementStr, List.length_cons, List.length_nil]
  simp only [List.mapM_cons, List.mapM_nil, decodeRank_showRank]
  refine ⟨_, rfl, ?_⟩
  intro s
  have : (([7, 6, 5, 4, 3, 2, 1, 0] : List (Fin 8)).map fun r =>
      (List.finRange 8).map fun f => pieces (mkSq r f)).reverse.flatten =
      (List.finRange 64).map pieces := by
    rw [finRange64_eq, List.map_flatMap, show List.finRange 8 = [0, 1, 2, 3, 4, 5, 6, 7] by decide]
    simp
  simp only [List.map_cons, List.map_nil] at this
  rw [this]
  simp

/-! ### the six fields -/

def sideStr : Color → List Char | .white => ['w'] | .black => ['b']

/-- the castling field: `KQkq` subset in that order, or `-` -/
def castleField (wcr bcr : CastleRights) : List Char :=
  castleString wcr .white ++ castleString bcr .black ++
    (if wcr == .noRights && bcr == .noRights then ['-'] else [])

def epField (e : Option Sq) : List Char := match e with | some s => showSquare s | none => ['-']

theorem sqName_eq_showSquare (s : Sq) : Fen.sqName s = showSquare s := rfl

/-- six fields separated by single spaces: the four the writer produces for `bb` (en-passant square `e`)
and two counters -/
def fenText (bb : Builder) (e : Option Sq) (half full : List Char) : List Char :=
  placementStr bb.pieces ++ ' ' :: (sideStr bb.stm ++ ' ' :: (castleField bb.wcr bb.bcr ++ ' ' ::
    (epField e ++ ' ' :: (half ++ ' ' :: full))))

/-- the writer's output is that text with the constant clocks `0` and `1` -/
theorem showBuilderWith_eq (bb : Builder) (e : Option Sq) :
    showBuilderWith bb e = fenText bb e ['0'] ['1'] := by
  have hp : ((([7, 6, 5, 4, 3, 2, 1, 0] : List (Fin 8)).map fun r =>
      showRank bb.pieces r ++ (if r ≠ 0 then ['/'] else [])).flatten) = placementStr bb.pieces := by
    simp [placementStr]
  unfold showBuilderWith fenText castleField epField sideStr
  dsimp only
  rw [hp]
  cases bb.stm <;> cases e <;> simp only [List.append_assoc, List.cons_append, List.nil_append] <;> rfl

theorem sideStr_no_space (c : Color) : ∀ x ∈ sideStr c, x ≠ ' ' := by
  cases c <;> decide

theorem castleField_no_space (wcr bcr : CastleRights) : ∀ x ∈ castleField wcr bcr, x ≠ ' ' := by
  obtain ⟨wk, wq⟩ := wcr
  obtain ⟨bk, bq⟩ := bcr
  cases wk <;> cases wq <;> cases bk <;> cases bq <;> decide

theorem epField_no_space (e : Option Sq) : ∀ x ∈ epField e, x ≠ ' ' := by
  have hf : ∀ f : Fin 8, fileChar f ≠ ' ' := by decide
  have hr : ∀ r : Fin 8, rankChar r ≠ ' ' := by decide
  cases e with
  | none => decide
  | some s =>
    intro x hx
    simp only [epField, showSquare, List.mem_cons, List.not_mem_nil, or_false] at hx
    rcases hx with rfl | rfl
    · exact hf _
    · exact hr _

theorem splitOn_space_fenText (bb : Builder) (e : Option Sq) (half full : List Char)
    (hh : ∀ x ∈ half, x ≠ ' ') (hfu : ∀ x ∈ full, x ≠ ' ') :
    Fen.splitOn ' ' (fenText bb e half full) =
      [placementStr bb.pieces, sideStr bb.stm, castleField bb.wcr bb.bcr, epField e, half, full] := by
  rw [fenText,
    splitOn_append _ _ _ (placementStr_no_space _), splitOn_append _ _ _ (sideStr_no_space _),
    splitOn_append _ _ _ (castleField_no_space _ _), splitOn_append _ _ _ (epField_no_space _),
    splitOn_append _ _ _ hh, splitOn_nosep _ _ hfu]

theorem splitSpace_fenText (bb : Builder) (e : Option Sq) (half full : List Char)
    (hh : ∀ x ∈ half, x ≠ ' ') (hfu : ∀ x ∈ full, x ≠ ' ') :
    Str.splitSpace (fenText bb e half full) =
      [placementStr bb.pieces, sideStr bb.stm, castleField bb.wcr bb.bcr, epField e, half, full] := by
  rw [splitSpace_eq, splitOn_space_fenText bb e half full hh hfu]

theorem splitSpace_showBuilderWith (bb : Builder) (e : Option Sq) :
    Str.splitSpace (showBuilderWith bb e) =
      [placementStr bb.pieces, sideStr bb.stm, castleField bb.wcr bb.bcr, epField e, ['0'], ['1']] := by
  rw [showBuilderWith_eq, splitSpace_fenText _ _ _ _ (by decide) (by decide)]

/-! #### side, castling, en passant as read back by `from_str` -/

theorem castleField_contains (wcr bcr : CastleRights) :
    (castleField wcr bcr).contains 'K' = wcr.ks ∧ (castleField wcr bcr).contains 'Q' = wcr.qs ∧
    (castleField wcr bcr).contains 'k' = bcr.ks ∧ (castleField wcr bcr).contains 'q' = bcr.qs := by
  obtain ⟨wk, wq⟩ := wcr
  obtain ⟨bk, bq⟩ := bcr
  cases wk <;> cases wq <;> cases bk <;> cases bq <;> decide

theorem getFile_ubackward (s : Sq) (c : Color) : (s.ubackward c).getFile = s.getFile := by
  cases c <;> simp [Sq.ubackward, Sq.udown, Sq.uup, getFile_mkSq]

theorem epShown_eq (bb : Builder) :
    bb.epShown = bb.epFile.map fun f => (mkSq bb.stm.other.fourthRank f).ubackward bb.stm.other := by
  unfold Builder.epShown Builder.getEnPassant
  cases bb.epFile <;> rfl

/-- the en-passant field of the writer is read back by `from_str` as the recorded file (`-`, which
`Square::from_str` rejects, as "none") -/
theorem ep_readback (bb : Builder) :
    (match parseSquare (epField bb.epShown) with
      | .panic => (none : Option (Option (Fin 8)))
      | .ok sq => some (some sq.getFile)
      | .err => some none) = some bb.epFile := by
  rw [epShown_eq]
  cases bb.epFile with
  | none => rfl
  | some f =>
    simp only [Option.map_some, epField, parseSquare_showSquare, getFile_ubackward, getFile_mkSq]

/-- `BoardBuilder::from_str` looks at the first four space-separated tokens only: whenever they are the
four fields the writer produces for `bd`, the result is `bd`, whatever follows -/
theorem parseBuilder_of_fields (bd : Builder) (s : List Char) (rest : List (List Char))
    (htok : Str.splitSpace s =
      placementStr bd.pieces :: sideStr bd.stm :: castleField bd.wcr bd.bcr :: epField bd.epShown :: rest) :
    ∃ bd', parseBuilder s = .ok bd' ∧ (∀ t, bd'.pieces t = bd.pieces t) ∧
      bd'.stm = bd.stm ∧ bd'.wcr = bd.wcr ∧ bd'.bcr = bd.bcr ∧ bd'.epFile = bd.epFile := by
  obtain ⟨st, hst, hpieces⟩ := parsePlacement_placementStr bd.pieces
  obtain ⟨hK, hQ, hk, hq⟩ := castleField_contains bd.wcr bd.bcr
  have hside : (if sideStr bd.stm = ['w'] ∨ sideStr bd.stm = ['W'] then some Color.white
      else if sideStr bd.stm = ['b'] ∨ sideStr bd.stm = ['B'] then some Color.black else none) =
      some bd.stm := by
    cases bd.stm <;> decide
  have hep := ep_readback bd
  unfold parseBuilder
  simp only [htok, hst, hside, hK, hQ, hk, hq]
  cases hps : parseSquare (epField bd.epShown) <;> rw [hps] at hep
  · exact ⟨_, rfl, hpieces, rfl, rfl, rfl, Option.some.inj hep⟩
  · exact ⟨_, rfl, hpieces, rfl, rfl, rfl, Option.some.inj hep⟩
  · cases hep

theorem parseBuilder_showBuilder (bd : Builder) :
    ∃ bd', parseBuilder (showBuilder bd) = .ok bd' ∧ (∀ s, bd'.pieces s = bd.pieces s) ∧
      bd'.stm = bd.stm ∧ bd'.wcr = bd.wcr ∧ bd'.bcr = bd.bcr ∧ bd'.epFile = bd.epFile :=
  parseBuilder_of_fields bd _ _ (splitSpace_showBuilderWith bd bd.epShown)

theorem Builder.ext_pointwise {a b : Builder} (hp : ∀ s, a.pieces s = b.pieces s) (hs : a.stm = b.stm)
    (hw : a.wcr = b.wcr) (hb : a.bcr = b.bcr) (he : a.epFile = b.epFile) : a = b := by
  obtain ⟨ap, _, _, _, _⟩ := a
  obtain ⟨bp, _, _, _, _⟩ := b
  cases (funext hp : ap = bp)
  simp only at hs hw hb he
  subst hs hw hb he
  rfl

/-! ### the standard decoder on the writer's output -/

/-- the en-passant clause of `Fen.decode`, named -/
def epMarkOf (stm : Color) (ep : List Char) : Option (Option Sq) :=
  if ep = ['-'] then some none else
  match Fen.sqOfName? ep with
  | none => none
  | some e =>
    let o := stm.other
    if e.rank == o.pawnRank + o.fwd then (sq? e.file (e.rank + o.fwd)).map some else none

theorem castleField_standard (wcr bcr : CastleRights) :
    castleField wcr bcr = ['-'] ∨ (!(castleField wcr bcr).isEmpty ∧
      (castleField wcr bcr).all (fun c => "KQkq".toList.contains c) ∧ (castleField wcr bcr).Nodup) := by
  obtain ⟨wk, wq⟩ := wcr
  obtain ⟨bk, bq⟩ := bcr
  cases wk <;> cases wq <;> cases bk <;> cases bq <;> decide

/-- the square the writer prints (behind the pawn) is accepted by the standard decoder as an
en-passant target of the right rank and is turned into the pawn's square -/
theorem epMarkOf_epShown (bb : Builder) :
    epMarkOf bb.stm (epField bb.epShown) = some bb.getEnPassant := by
  have ht : ∀ (c : Color) (f : Fin 8),
      epMarkOf c (showSquare ((mkSq c.other.fourthRank f).ubackward c.other)) =
        some (some (mkSq c.other.fourthRank f)) := by
    intro c; cases c <;> decide
  rw [epShown_eq]
  unfold Builder.getEnPassant
  cases bb.epFile with
  | none => rfl
  | some f => exact ht _ _

/-- the six-field text is a standard FEN of `bd` (en-passant mark: the pawn's square), whatever
decimal counters it carries -/
theorem decode_fenText (bd : Builder) (half full : List Char)
    (hh : ∀ x ∈ half, x ≠ ' ') (hfu : ∀ x ∈ full, x ≠ ' ')
    (hn : Fen.isNat half ∧ Fen.isNat full) :
    ∃ q : Pos, Fen.decode (fenText bd bd.epShown half full) = some q ∧ (∀ s, q.board s = bd.pieces s) ∧
      q.stm = bd.stm ∧
      q.castleK .white = bd.wcr.ks ∧ q.castleQ .white = bd.wcr.qs ∧
      q.castleK .black = bd.bcr.ks ∧ q.castleQ .black = bd.bcr.qs ∧
      q.ep = bd.getEnPassant := by
  obtain ⟨board, hb, hboard⟩ := decodePlacement_placementStr bd.pieces
  obtain ⟨hK, hQ, hk, hq⟩ := castleField_contains bd.wcr bd.bcr
  have hside : (if sideStr bd.stm = ['w'] then some Color.white
      else if sideStr bd.stm = ['b'] then some Color.black else none) = some bd.stm := by
    cases bd.stm <;> rfl
  have hep := epMarkOf_epShown bd
  simp only [epMarkOf] at hep
  unfold Fen.decode
  rw [splitOn_space_fenText bd bd.epShown half full hh hfu]
  simp only [hb, hside]
  rw [if_neg (Classical.not_not.2 (castleField_standard _ _)), if_neg (Classical.not_not.2 hn)]
  cases hs : Fen.sqOfName? (epField bd.epShown) <;>
    (simp only [hs] at hep ⊢; simp only [hep]
     exact ⟨_, rfl, hboard, rfl, hK, hQ, hk, hq, rfl⟩)

theorem decode_showBuilder (bd : Builder) :
    ∃ q : Pos, Fen.decode (showBuilder bd) = some q ∧ (∀ s, q.board s = bd.pieces s) ∧
      q.stm = bd.stm ∧
      q.castleK .white = bd.wcr.ks ∧ q.castleQ .white = bd.wcr.qs ∧
      q.castleK .black = bd.bcr.ks ∧ q.castleQ .black = bd.bcr.qs ∧
      q.ep = bd.getEnPassant := by
  rw [showBuilder, showBuilderWith_eq]
  exact decode_fenText bd _ _ (by decide) (by decide) (by decide)

end Chess
