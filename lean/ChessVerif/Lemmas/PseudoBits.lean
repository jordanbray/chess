import ChessVerif.Lemmas.PseudoBits1
import ChessVerif.Lemmas.PseudoBits2
import ChessVerif.Lemmas.Sane
/-
Pseudo-legal destination sets of the code against the specification, packaged (a building block of
C01).  For a man `pc ≠ king` of the side to move on `src`:

  bit `d` of `MoveGen.pseudoLegals T pc src stm combined (~~~own)` is set, and the promotion value `q`
  has the shape the iterator emits (one of `promotionPieces` if the entry carries the promotion flag,
  i.e. a pawn on its seventh rank; `none` otherwise)
    ↔  `pseudoLegal b.abs ⟨src, d, q⟩` and the move is not an en-passant capture.

En-passant captures and castling are generated by separate code and are not part of these sets.

No hypothesis "no pawn on its last rank" is needed anywhere: such a pawn has no destination in the
code (`pawn_lastRank_no_bits`) and no standard move in the specification (`pawnStd_lastRank`), and
the promotion flag is related to the destination rank per destination (`pawn_promo_flag`).
-/
namespace Chess
namespace PseudoBits

/-- the promotion values the iterator emits for a destination of an entry of `pc` on `src`: the
entry's promotion flag is `pc = pawn ∧ src.getRank = c.seventhRank`; with the flag every element of
`promotionPieces`, without it `none` -/
def emitShape (pc : Piece) (src : Sq) (c : Color) (q : Option Piece) : Prop :=
  if pc = .pawn ∧ src.getRank = c.seventhRank then ∃ x ∈ promotionPieces, q = some x else q = none

theorem emitShape_pawn_iff {p : Pos} {src d : Sq} {c : Color} (h : pawnStd p src d c = true)
    (q : Option Piece) : emitShape .pawn src c q ↔ promoShape c d q = true := by
  unfold emitShape
  rw [promoShape_iff]
  have hf := pawn_promo_flag h
  by_cases hr : src.getRank = c.seventhRank
  · rw [if_pos ⟨rfl, hr⟩, if_pos (hf.mp hr)]
  · rw [if_neg (fun hh => hr hh.2), if_neg (fun hh => hr (hf.mpr hh))]

/-- **Package.**  A man other than the king, of the side to move: the code's destination bit together
with the emitted promotion shape is exactly "pseudo-legal in the specification and not en passant". -/
theorem pseudoLegals_iff {T : Tables} (hT : TablesOK T) {b : Board} (hs : Struct b) {src : Sq} {pc : Piece}
    (hk : pc ≠ .king) (hsrc : b.content src = some (pc, b.stm)) (d : Sq) (q : Option Piece) :
    ((MoveGen.pseudoLegals T pc src b.stm b.combined (~~~(b.colorCombined b.stm))).getLsbD d.val = true ∧
        emitShape pc src b.stm q) ↔
      (pseudoLegal b.abs ⟨src, d, q⟩ = true ∧ isEnPassant b.abs ⟨src, d, q⟩ = false) := by
  by_cases hp : pc = .pawn
  · subst hp
    rw [pawn_bits hT hs, pseudoLegal_pawn hsrc]
    exact and_congr_right fun h => emitShape_pawn_iff h q
  · have he : emitShape pc src b.stm q ↔ q = none := by
      unfold emitShape; rw [if_neg (fun hh => hp hh.1)]
    rw [he, piece_bits hT hs hp hsrc, pseudoLegal_piece hp hk hsrc,
      (not_pawn_flags (m := ⟨src, d, q⟩) hsrc hp).1, abs_stm]
    constructor
    · rintro ⟨⟨h1, h2⟩, h3⟩; exact ⟨⟨h3, h1, h2⟩, rfl⟩
    · rintro ⟨⟨h3, h1, h2⟩, _⟩; exact ⟨⟨h1, h2⟩, h3⟩

/-- **King steps.**  The king of the side to move: the code's destination bit (the entry never carries
the promotion flag, so `q = none`) is exactly "pseudo-legal and not a castling move". -/
theorem pseudoLegals_king_iff {T : Tables} (hT : TablesOK T) {b : Board} (hs : Struct b) {src : Sq}
    (hsrc : b.content src = some (.king, b.stm)) (d : Sq) (q : Option Piece) :
    ((MoveGen.pseudoLegals T .king src b.stm b.combined (~~~(b.colorCombined b.stm))).getLsbD d.val = true ∧
        q = none) ↔
      (pseudoLegal b.abs ⟨src, d, q⟩ = true ∧ isCastle b.abs ⟨src, d, q⟩ = false) := by
  rw [piece_bits hT hs (by decide) hsrc, pseudoLegal_king_step hsrc, abs_stm]
  constructor
  · rintro ⟨⟨h1, h2⟩, h3⟩; exact ⟨h3, h1, h2⟩
  · rintro ⟨h3, h1, h2⟩; exact ⟨⟨h1, h2⟩, h3⟩

/-- the elements of `promotionPieces` by index, as `MoveGen.next` reads them -/
theorem emit_index (q : Option Piece) :
    (∃ x ∈ promotionPieces, q = some x) ↔ ∃ i, i < 4 ∧ q = promotionPieces[i]? := by
  constructor
  · rintro ⟨x, hx, rfl⟩
    obtain ⟨i, hi, rfl⟩ := List.mem_iff_getElem.mp hx
    exact ⟨i, hi, (List.getElem?_eq_getElem hi).symm⟩
  · rintro ⟨i, hi, rfl⟩
    exact ⟨promotionPieces[i], List.getElem_mem hi, List.getElem?_eq_getElem hi⟩

end PseudoBits
end Chess
