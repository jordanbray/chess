import ChessVerif.Model.Game
/-!
# Lemmas about the model of `game.rs` (`Chess.Game`)

Everything holds for every `T : Tables`.  The three folds over the log (`currentPosition`, `drawScan`, `plies`)
are taken from the right (`List.snoc_induction`): a move runs one more step, any other action changes nothing.
`result_eq` is `result` written out, and `perform_eq` describes the five operations by one equation: they panic
with `result`, refuse when there is a result or the request fails its own test (`admits`), and otherwise append
the request.  The statements of `Props/C10.lean` and the simulation step of `Lemmas/GameRefine.lean` are read
off these two.  The scan of `can_declare_draw` gets a closed form over the plies of the game
(`drawScan_closed_form`, for `Props/C11.lean`).
-/
namespace Chess

/-! ### a move flips the side to move -/

namespace Board

@[simp] theorem xorPieces_stm (b : Board) (p : Piece) (bb : BB) : (b.xorPieces p bb).stm = b.stm := by
  cases p <;> rfl
@[simp] theorem xorColor_stm (b : Board) (c : Color) (bb : BB) : (b.xorColor c bb).stm = b.stm := by
  cases c <;> rfl
@[simp] theorem xor_stm (T : Tables) (b : Board) (p : Piece) (bb : BB) (c : Color) :
    (b.xor T p bb c).stm = b.stm := by
  simp [Board.xor]
@[simp] theorem setCastleRights_stm (b : Board) (c : Color) (cr : CastleRights) :
    (b.setCastleRights c cr).stm = b.stm := by
  cases c <;> rfl
@[simp] theorem setEp_stm (T : Tables) (b : Board) (s : Sq) : (b.setEp T s).stm = b.stm := by
  unfold Board.setEp; split <;> rfl

/-- `make_move_new` succeeds exactly when the source square is occupied (the only `unwrap`) -/
theorem makeMoveNew_isSome_iff (T : Tables) (b : Board) (m : Move) :
    (b.makeMoveNew T m).isSome = (b.pieceOn m.src).isSome := by
  unfold Board.makeMoveNew
  extract_lets result source dest sourceBB destBB moveBB
  split <;> rename_i h <;> (rw [show b.pieceOn m.src = _ from h]; rfl)

theorem stm_ite {c : Prop} [Decidable c] {x y : Board} {s : Color} (hx : x.stm = s) (hy : y.stm = s) :
    (if c then x else y).stm = s := by
  split <;> assumption

theorem makeMoveNew_stm {T : Tables} {b b' : Board} {m : Move} (h : b.makeMoveNew T m = some b') :
    b'.stm = b.stm.other := by
  unfold Board.makeMoveNew at h
  extract_lets result source dest sourceBB destBB moveBB at h
  split at h
  · cases h
  · extract_lets r1 r2 r3 r4 r5 oppKing castles ksq rPromo rDbl rEpCap res att at h
    -- every branch is built from `xor`, `setCastleRights`, `setEp` and updates of `checkers`, none of
    -- which touches `stm`; `simp` on the whole term is slow, so the branches are walked by hand
    have hx : ∀ (x : Board) p bb c, x.stm = b.stm → (x.xor T p bb c).stm = b.stm :=
      fun x p bb c hx => (xor_stm ..).trans hx
    have h2 : r2.stm = b.stm := hx _ _ _ _ (hx _ _ _ _ rfl)
    have h3 : r3.stm = b.stm := by
      simp only [r3]; split
      · exact hx _ _ _ _ h2
      · exact h2
    have h5 : r5.stm = b.stm := (setCastleRights_stm ..).trans ((setCastleRights_stm ..).trans h3)
    have hres : res.stm = b.stm := by
      refine stm_ite h5 (stm_ite ?_ (stm_ite (hx _ _ _ _ (hx _ _ _ _ h5)) h5))
      split
      · exact hx _ _ _ _ (hx _ _ _ _ h5)
      · exact hx _ _ _ _ (hx _ _ _ _ h5)
      · exact stm_ite ((setEp_stm ..).trans h5) (stm_ite (hx _ _ _ _ h5) h5)
    generalize sliderScan T res.combined ksq att.toList (res.pinned, res.checkers) = pc at h
    cases h
    exact congrArg Color.other hres

end Board

theorem List.snoc_induction {α : Type _} {P : List α → Prop} (nil : P [])
    (snoc : ∀ l a, P l → P (l ++ [a])) : ∀ l, P l := by
  intro l
  rw [← List.reverse_reverse l]
  induction l.reverse with
  | nil => exact nil
  | cons a t ih => rw [List.reverse_cons]; exact snoc _ _ ih

namespace Game

/-! ### replaying the log -/

/-- one step of the replay in `currentPosition` -/
def stepPos (T : Tables) (ob : Option Board) (a : Action) : Option Board :=
  match a with
  | .makeMove m => ob.bind fun b => b.makeMoveNew T m
  | _ => ob

theorem stepPos_other (T : Tables) (ob : Option Board) {a : Action} (ha : isMove a = false) :
    stepPos T ob a = ob := by
  cases a <;> first | rfl | cases ha

theorem currentPosition_eq_foldl (T : Tables) (g : Game) :
    g.currentPosition T = g.moves.foldl (stepPos T) (some g.startPos) := rfl

@[simp] theorem currentPosition_nil (T : Tables) (s : Board) :
    currentPosition T ⟨s, []⟩ = some s := rfl

theorem currentPosition_snoc (T : Tables) (s : Board) (l : List Action) (a : Action) :
    currentPosition T ⟨s, l ++ [a]⟩ = stepPos T (currentPosition T ⟨s, l⟩) a := by
  simp only [currentPosition_eq_foldl, List.foldl_append, List.foldl_cons, List.foldl_nil]

theorem currentPosition_snoc_move (T : Tables) (s : Board) (l : List Action) (m : Move) :
    currentPosition T ⟨s, l ++ [.makeMove m]⟩ =
      (currentPosition T ⟨s, l⟩).bind fun b => b.makeMoveNew T m := currentPosition_snoc T s l _

theorem currentPosition_snoc_other (T : Tables) (s : Board) (l : List Action) (a : Action)
    (ha : isMove a = false) : currentPosition T ⟨s, l ++ [a]⟩ = currentPosition T ⟨s, l⟩ := by
  rw [currentPosition_snoc, stepPos_other T _ ha]

theorem foldl_stepPos_none (T : Tables) (l : List Action) : l.foldl (stepPos T) none = none := by
  induction l with
  | nil => rfl
  | cons a t ih => cases a <;> exact ih

theorem currentPosition_cons_move (T : Tables) (s : Board) (m : Move) (l : List Action) :
    currentPosition T ⟨s, .makeMove m :: l⟩ = (s.makeMoveNew T m).bind fun b' => currentPosition T ⟨b', l⟩ := by
  show l.foldl (stepPos T) (s.makeMoveNew T m) = _
  cases s.makeMoveNew T m with
  | none => exact foldl_stepPos_none T l
  | some b' => rfl

theorem currentPosition_cons_other (T : Tables) (s : Board) (a : Action) (l : List Action)
    (ha : isMove a = false) : currentPosition T ⟨s, a :: l⟩ = currentPosition T ⟨s, l⟩ := by
  rw [currentPosition_eq_foldl, List.foldl_cons, stepPos_other T _ ha]; rfl

def moveOf : Action → Option Move | .makeMove m => some m | _ => none

/-! ### side to move -/

theorem sideToMove_nil (s : Board) : sideToMove ⟨s, []⟩ = s.stm := by
  cases h : s.stm <;> simp [sideToMove, h]

theorem parity_color_succ (n : Nat) :
    (if (n + 1) % 2 = 0 then Color.white else .black) = (if n % 2 = 0 then Color.white else .black).other := by
  rw [Nat.add_mod]
  rcases Nat.mod_two_eq_zero_or_one n with h | h <;> rw [h] <;> rfl

theorem sideToMove_snoc_move (s : Board) (l : List Action) (m : Move) :
    sideToMove ⟨s, l ++ [.makeMove m]⟩ = (sideToMove ⟨s, l⟩).other := by
  simp only [sideToMove, List.filter_append, List.length_append]
  show (if ((l.filter isMove).length + 1 + _) % 2 = 0 then _ else _) = _
  rw [Nat.add_right_comm]
  exact parity_color_succ _

theorem sideToMove_snoc_other (s : Board) (l : List Action) (a : Action) (ha : isMove a = false) :
    sideToMove ⟨s, l ++ [a]⟩ = sideToMove ⟨s, l⟩ := by
  simp [sideToMove, List.filter_append, ha]

/-- the side to move computed by parity is the side to move of the replayed position -/
theorem currentPosition_stm (T : Tables) (g : Game) {cur : Board}
    (h : g.currentPosition T = some cur) : cur.stm = g.sideToMove := by
  obtain ⟨s, l⟩ := g
  induction l using List.snoc_induction generalizing cur with
  | nil => cases h; exact (sideToMove_nil _).symm
  | snoc l a ih =>
    cases a with
    | makeMove m =>
      rw [currentPosition_snoc_move] at h
      obtain ⟨c, hc, hm⟩ := Option.bind_eq_some_iff.1 h
      rw [sideToMove_snoc_move, Board.makeMoveNew_stm hm, ih hc]
    | _ =>
      rw [currentPosition_snoc_other _ _ _ _ rfl] at h
      rw [sideToMove_snoc_other _ _ _ rfl]
      exact ih h

/-! ### `result` -/

/-- `result` written out: it panics with the replay; mate and stalemate come from the position,
everything else from the last action -/
theorem result_eq (T : Tables) (g : Game) :
    g.result T = (g.currentPosition T).map fun cur =>
      match cur.status T with
      | .checkmate => some (if cur.stm = .white then .blackCheckmates else .whiteCheckmates)
      | .stalemate => some .stalemate
      | .ongoing =>
        match g.moves.getLast? with
        | some .acceptDraw => some .drawAccepted
        | some .declareDraw => some .drawDeclared
        | some (.resign .white) => some .whiteResigns
        | some (.resign .black) => some .blackResigns
        | _ => none := by
  unfold result
  cases hc : g.currentPosition T with
  | none => rfl
  | some cur =>
    simp only [Option.map_some, ← currentPosition_stm T g hc]
    cases cur.status T <;> simp only
    cases g.moves.getLast? with
    | none => rfl
    | some a => cases a <;> first | rfl | (rename_i c; cases c <;> rfl)

theorem result_eq_none_iff (T : Tables) (g : Game) : g.result T = none ↔ g.currentPosition T = none := by
  rw [result_eq, Option.map_eq_none_iff]

theorem currentPosition_of_result {T : Tables} {g : Game} {r : Option GameResult}
    (h : g.result T = some r) : ∃ cur, g.currentPosition T = some cur := by
  rw [result_eq] at h
  obtain ⟨cur, hc, _⟩ := Option.map_eq_some_iff.1 h
  exact ⟨cur, hc⟩

theorem result_none_iff {T : Tables} {g : Game} :
    g.result T = some none ↔
      ∃ cur, g.currentPosition T = some cur ∧ cur.status T = .ongoing ∧
        (g.moves.getLast? = none ∨ (∃ m, g.moves.getLast? = some (.makeMove m)) ∨
          (∃ c, g.moves.getLast? = some (.offerDraw c))) := by
  rw [result_eq, Option.map_eq_some_iff]
  refine exists_congr fun cur => and_congr_right fun _ => ?_
  cases cur.status T <;> simp only [reduceCtorEq, false_and, true_and]
  cases g.moves.getLast? with
  | none => simp
  | some a => cases a <;> first | (rename_i c; cases c <;> simp) | simp

/-- the result an accepted action produces by itself in an ongoing position -/
def resultOfAction : Action → Option GameResult
  | .acceptDraw => some .drawAccepted
  | .declareDraw => some .drawDeclared
  | .resign .white => some .whiteResigns
  | .resign .black => some .blackResigns
  | _ => none

/-- an accepted action that is not a move fixes the result when it is one of the three ending
actions (the position is ongoing, otherwise nothing would have been accepted) -/
theorem result_after_nonmove {T : Tables} {g : Game} (hr : g.result T = some none) (a : Action)
    (ha : isMove a = false) :
    result T { g with moves := g.moves ++ [a] } = some (resultOfAction a) := by
  obtain ⟨cur, hc, hs, _⟩ := result_none_iff.1 hr
  rw [result_eq, currentPosition_snoc_other T _ _ a ha, hc, Option.map_some, hs]
  simp only [List.getLast?_concat]
  cases a with
  | makeMove m => cases ha
  | resign c => cases c <;> rfl
  | _ => rfl

theorem result_correct {T : Tables} {g : Game} {r : GameResult} (h : g.result T = some (some r)) :
    ∃ cur, g.currentPosition T = some cur ∧ cur.stm = g.sideToMove ∧
      (r = .whiteCheckmates ↔ cur.status T = .checkmate ∧ cur.stm = .black) ∧
      (r = .blackCheckmates ↔ cur.status T = .checkmate ∧ cur.stm = .white) ∧
      (r = .stalemate ↔ cur.status T = .stalemate) ∧
      (r = .drawAccepted ↔ cur.status T = .ongoing ∧ g.moves.getLast? = some .acceptDraw) ∧
      (r = .drawDeclared ↔ cur.status T = .ongoing ∧ g.moves.getLast? = some .declareDraw) ∧
      (r = .whiteResigns ↔ cur.status T = .ongoing ∧ g.moves.getLast? = some (.resign .white)) ∧
      (r = .blackResigns ↔ cur.status T = .ongoing ∧ g.moves.getLast? = some (.resign .black)) := by
  rw [result_eq] at h
  obtain ⟨cur, hc, h⟩ := Option.map_eq_some_iff.1 h
  refine ⟨cur, hc, currentPosition_stm T g hc, ?_⟩
  cases hs : cur.status T <;> simp only [hs, Option.some.injEq] at h
  · cases hl : g.moves.getLast? with
    | none => simp [hl] at h
    | some a =>
      rw [hl] at h
      cases a with
      | makeMove m => simp at h
      | offerDraw c => simp at h
      | acceptDraw => simp at h; subst h; simp
      | declareDraw => simp at h; subst h; simp
      | resign c => cases c <;> simp at h <;> subst h <;> simp
  · subst h; simp
  · cases hstm : cur.stm <;> simp [hstm] at h <;> subst h <;> simp

/-! ### the scan of `can_declare_draw` -/

/-- the entry `can_declare_draw` records for a position -/
def entry (T : Tables) (b : Board) : BB × List Move := (b.getHash T, b.legalMoves T)

/-- the test the code uses for "pawn move or capture": a pawn stands on the source square, or the
destination square is occupied (an en-passant capture is a pawn move) -/
def isPawnOrCapture (b : Board) (m : Move) : Bool :=
  decide (b.pieceOn m.src = some .pawn) || (b.pieceOn m.dst).isSome

def rightsChanged (b b' : Board) : Bool := decide (b'.wcr ≠ b.wcr ∨ b'.bcr ≠ b.bcr)

def scanInit (T : Tables) (s : Board) : DrawScan := ⟨s, 0, [entry T s]⟩

def scanStep (T : Tables) (ost : Option DrawScan) (a : Action) : Option DrawScan :=
  match a with
  | .makeMove m => ost.bind fun st => drawStep T st m
  | _ => ost

theorem drawScan_eq_foldl (T : Tables) (g : Game) :
    g.drawScan T = g.moves.foldl (scanStep T) (some (scanInit T g.startPos)) := rfl

@[simp] theorem drawScan_nil (T : Tables) (s : Board) : drawScan T ⟨s, []⟩ = some (scanInit T s) := rfl

theorem drawScan_snoc (T : Tables) (s : Board) (l : List Action) (a : Action) :
    drawScan T ⟨s, l ++ [a]⟩ = scanStep T (drawScan T ⟨s, l⟩) a := by
  simp only [drawScan_eq_foldl, List.foldl_append, List.foldl_cons, List.foldl_nil]

theorem drawScan_append_move (T : Tables) (s : Board) (l : List Action) (m : Move) :
    drawScan T ⟨s, l ++ [.makeMove m]⟩ = (drawScan T ⟨s, l⟩).bind fun st => drawStep T st m :=
  drawScan_snoc T s l _

theorem drawScan_append_other (T : Tables) (s : Board) (l : List Action) (a : Action)
    (ha : isMove a = false) : drawScan T ⟨s, l ++ [a]⟩ = drawScan T ⟨s, l⟩ := by
  rw [drawScan_snoc]; cases a <;> first | rfl | cases ha

/-- one step of the scan: the fifty-move counter is reset by a pawn move or capture and otherwise
incremented; the repetition list is cleared by a pawn move, a capture or a change of castling
rights; the new position's entry is always appended -/
theorem drawStep_eq (T : Tables) (st : DrawScan) (m : Move) :
    drawStep T st m = (st.board.makeMoveNew T m).map fun b' =>
      ⟨b', if isPawnOrCapture st.board m then 0 else st.reversible + 1,
        (if isPawnOrCapture st.board m || rightsChanged st.board b' then [] else st.seen) ++ [entry T b']⟩ := by
  unfold drawStep
  cases st.board.makeMoveNew T m with
  | none => rfl
  | some b' =>
    simp only [Option.map_some, Option.some.injEq, DrawScan.mk.injEq, true_and]
    by_cases h1 : st.board.pieceOn m.src = some .pawn
    · simp [isPawnOrCapture, h1, entry]
    · by_cases h2 : (st.board.pieceOn m.dst).isSome = true
      · simp [isPawnOrCapture, h1, h2, entry]
      · simp only [isPawnOrCapture, h1, h2, entry, rightsChanged]
        by_cases h3 : b'.wcr ≠ st.board.wcr ∨ b'.bcr ≠ st.board.bcr <;> simp [h3]

theorem drawScan_board_last {T : Tables} {g : Game} {st : DrawScan} (h : drawScan T g = some st) :
    currentPosition T g = some st.board ∧ st.seen.getLast? = some (entry T st.board) := by
  obtain ⟨s, l⟩ := g
  induction l using List.snoc_induction generalizing st with
  | nil => cases h; exact ⟨rfl, rfl⟩
  | snoc l a ih =>
    cases a with
    | makeMove m =>
      rw [drawScan_append_move] at h
      obtain ⟨st0, h0, h⟩ := Option.bind_eq_some_iff.1 h
      rw [drawStep_eq] at h
      obtain ⟨b', hb, rfl⟩ := Option.map_eq_some_iff.1 h
      rw [currentPosition_snoc_move, (ih h0).1]
      exact ⟨hb, List.getLast?_concat⟩
    | _ =>
      rw [drawScan_append_other _ _ _ _ rfl] at h
      rw [currentPosition_snoc_other _ _ _ _ rfl]
      exact ih h

/-! ### the plies of a game and the closed form of the scan -/

/-- the move actions of a log replayed from `b`, each with the position it was played in and the
position it produced -/
def pliesFrom (T : Tables) : Board → List Action → Option (List (Board × Move × Board))
  | _, [] => some []
  | b, .makeMove m :: l => (b.makeMoveNew T m).bind fun b' => (pliesFrom T b' l).map ((b, m, b') :: ·)
  | b, _ :: l => pliesFrom T b l

def plies (T : Tables) (g : Game) : Option (List (Board × Move × Board)) :=
  pliesFrom T g.startPos g.moves

theorem pliesFrom_snoc_move (T : Tables) (s : Board) (l : List Action) (m : Move) :
    pliesFrom T s (l ++ [.makeMove m]) =
      (pliesFrom T s l).bind fun tr => (currentPosition T ⟨s, l⟩).bind fun c =>
        (c.makeMoveNew T m).map fun c' => tr ++ [(c, m, c')] := by
  induction l generalizing s with
  | nil =>
    simp only [List.nil_append, pliesFrom, currentPosition_nil, Option.bind_some]
    cases s.makeMoveNew T m <;> rfl
  | cons a t ih =>
    cases a with
    | makeMove m0 =>
      simp only [List.cons_append, pliesFrom, currentPosition_cons_move]
      cases s.makeMoveNew T m0 with
      | none => rfl
      | some b' =>
        simp only [Option.bind_some, ih b']
        cases pliesFrom T b' t with
        | none => rfl
        | some tr =>
          cases currentPosition T ⟨b', t⟩ with
          | none => rfl
          | some c =>
            simp only [Option.bind_some, Option.map_some]
            cases c.makeMoveNew T m <;> rfl
    | _ => rw [currentPosition_cons_other _ _ _ _ rfl]; exact ih s

theorem pliesFrom_snoc_other (T : Tables) (s : Board) (l : List Action) (a : Action)
    (ha : isMove a = false) : pliesFrom T s (l ++ [a]) = pliesFrom T s l := by
  induction l generalizing s with
  | nil => cases a <;> first | rfl | cases ha
  | cons x t ih => cases x <;> simp only [List.cons_append, pliesFrom, ih]

theorem plies_isSome (T : Tables) (g : Game) : (plies T g).isSome = (currentPosition T g).isSome := by
  obtain ⟨s, l⟩ := g
  unfold plies
  induction l using List.snoc_induction with
  | nil => rfl
  | snoc l a ih =>
    cases a with
    | makeMove m =>
      simp only at ih ⊢
      rw [pliesFrom_snoc_move, currentPosition_snoc_move]
      cases hc : currentPosition T ⟨s, l⟩ with
      | none => cases pliesFrom T s l <;> rfl
      | some c =>
        rw [hc] at ih
        obtain ⟨tr, hp⟩ := Option.isSome_iff_exists.1 ih
        rw [hp, Option.bind_some, Option.bind_some, Option.bind_some]
        cases c.makeMoveNew T m <;> rfl
    | _ => rw [pliesFrom_snoc_other _ _ _ _ rfl, currentPosition_snoc_other _ _ _ _ rfl]; exact ih

/-- length of the longest suffix all of whose elements satisfy `p` -/
def trailing {α : Type _} (p : α → Bool) (l : List α) : Nat := (l.reverse.takeWhile p).length

@[simp] theorem trailing_nil {α : Type _} (p : α → Bool) : trailing p [] = 0 := rfl

theorem trailing_snoc {α : Type _} (p : α → Bool) (l : List α) (x : α) :
    trailing p (l ++ [x]) = if p x then trailing p l + 1 else 0 := by
  simp only [trailing, List.reverse_append, List.reverse_cons, List.reverse_nil, List.nil_append,
    List.cons_append, List.takeWhile_cons]
  split <;> rfl

theorem trailing_le {α : Type _} (p : α → Bool) (l : List α) : trailing p l ≤ l.length := by
  simpa [trailing] using (List.takeWhile_prefix (l := l.reverse) p).length_le

def plyQuiet (x : Board × Move × Board) : Bool := !isPawnOrCapture x.1 x.2.1

def plyRepeatable (x : Board × Move × Board) : Bool :=
  !(isPawnOrCapture x.1 x.2.1 || rightsChanged x.1 x.2.2)

def historyEntries (T : Tables) (s : Board) (tr : List (Board × Move × Board)) : List (BB × List Move) :=
  entry T s :: tr.map fun x => entry T x.2.2

theorem historyEntries_length (T : Tables) (s : Board) (tr : List (Board × Move × Board)) :
    (historyEntries T s tr).length = tr.length + 1 := by simp [historyEntries]

theorem historyEntries_snoc (T : Tables) (s : Board) (tr : List (Board × Move × Board))
    (x : Board × Move × Board) :
    historyEntries T s (tr ++ [x]) = historyEntries T s tr ++ [entry T x.2.2] := by
  simp [historyEntries]

/-- **closed form of the scan.** `reversible` is the number of trailing plies that were neither a pawn
move nor a capture; `seen` consists of the last `k + 1` entries of the position history, `k` being the
number of trailing plies that were neither a pawn move, nor a capture, nor changed castling rights
(so `seen` starts with the position produced by the last such ply, or with the start position) -/
theorem drawScan_closed_form (T : Tables) (g : Game) :
    drawScan T g = (currentPosition T g).bind fun cur => (plies T g).map fun tr =>
      ⟨cur, trailing plyQuiet tr,
        (historyEntries T g.startPos tr).drop (tr.length - trailing plyRepeatable tr)⟩ := by
  obtain ⟨s, l⟩ := g
  unfold plies
  simp only
  induction l using List.snoc_induction with
  | nil => rfl
  | snoc l a ih =>
    cases a with
    | makeMove m =>
      rw [drawScan_append_move, ih, pliesFrom_snoc_move, currentPosition_snoc_move]
      cases currentPosition T ⟨s, l⟩ with
      | none => rfl
      | some c =>
        cases pliesFrom T s l with
        | none => simp
        | some tr =>
          simp only [Option.bind_some, Option.map_some, drawStep_eq]
          cases c.makeMoveNew T m with
          | none => rfl
          | some c' =>
            simp only [Option.map_some, Option.bind_some, Option.some.injEq, DrawScan.mk.injEq, true_and]
            have hk := trailing_le plyRepeatable tr
            have hlen := historyEntries_length T s tr
            constructor
            · rw [trailing_snoc]; cases h : isPawnOrCapture c m <;> simp [plyQuiet, h]
            · rw [trailing_snoc, historyEntries_snoc, List.length_append, List.length_singleton]
              by_cases hr : (isPawnOrCapture c m || rightsChanged c c') = true
              · simp only [hr, if_true, plyRepeatable, Bool.not_true, Bool.false_eq_true, if_false,
                  Nat.sub_zero]
                rw [List.drop_append_of_le_length (by omega), List.drop_of_length_le (by omega)]
              · simp only [hr, plyRepeatable, Bool.not_false, if_true, Bool.false_eq_true, if_false]
                rw [List.drop_append_of_le_length (by omega), Nat.add_sub_add_right]
    | _ =>
      rw [drawScan_append_other _ _ _ _ rfl, ih, pliesFrom_snoc_other _ _ _ _ rfl,
        currentPosition_snoc_other _ _ _ _ rfl]

theorem drawScan_isSome (T : Tables) (g : Game) : (drawScan T g).isSome = (currentPosition T g).isSome := by
  have := plies_isSome T g
  rw [drawScan_closed_form]
  cases hc : currentPosition T g with
  | none => rfl
  | some cur =>
    rw [hc] at this
    obtain ⟨tr, hp⟩ := Option.isSome_iff_exists.1 this
    rw [hp]; rfl

theorem two_le_count_iff {α : Type _} [BEq α] [LawfulBEq α] (l : List α) (a : α) :
    2 ≤ l.count a ↔ ∃ i j : Nat, j < i ∧ l[i]? = some a ∧ l[j]? = some a := by
  induction l with
  | nil => simp
  | cons x t ih =>
    rw [List.count_cons]
    constructor
    · intro h
      by_cases hx : x = a
      · subst hx
        have h1 : 0 < t.count x := by simp only [beq_self_eq_true, if_true] at h; omega
        obtain ⟨k, hk⟩ := List.getElem?_of_mem (List.count_pos_iff.1 h1)
        exact ⟨k + 1, 0, by omega, hk, rfl⟩
      · rw [if_neg (by simpa using hx)] at h
        obtain ⟨i, j, hji, hi, hj⟩ := ih.1 h
        exact ⟨i + 1, j + 1, by omega, hi, hj⟩
    · rintro ⟨i, j, hji, hi, hj⟩
      cases i with
      | zero => omega
      | succ i =>
        have hi : t[i]? = some a := hi
        have := List.count_pos_iff.2 (List.mem_of_getElem? hi)
        cases j with
        | zero =>
          obtain rfl : x = a := Option.some.inj hj
          rw [beq_self_eq_true, if_pos rfl]; omega
        | succ j =>
          have := ih.2 ⟨i, j, by omega, hi, hj⟩
          omega

/-- the pair search of `can_declare_draw` succeeds exactly when the last entry occurs at least three
times in the list (itself included) -/
theorem threefold_iff (seen : List (BB × List Move)) (last : BB × List Move)
    (h : seen.getLast? = some last) : threefold seen = true ↔ 3 ≤ seen.count last := by
  obtain ⟨init, rfl⟩ := List.getLast?_eq_some_iff.1 h
  unfold threefold
  rw [h]
  simp only [List.count_append, List.count_singleton_self, List.length_append, List.length_cons,
    List.length_nil, Nat.zero_add, Nat.add_sub_cancel]
  rw [show (3 ≤ init.count last + 1) ↔ 2 ≤ init.count last by omega, two_le_count_iff]
  simp only [List.any_eq_true, List.mem_range, Bool.and_eq_true, decide_eq_true_eq, beq_iff_eq]
  constructor
  · rintro ⟨i, hi, _, j, hj, e1, e2⟩
    rw [List.getElem?_append_left hi] at e1
    rw [List.getElem?_append_left (by omega)] at e2
    exact ⟨i, j, hj, e1, e2⟩
  · rintro ⟨i, j, hji, hi, hj⟩
    have hlt : i < init.length := (List.getElem?_eq_some_iff.1 hi).1
    refine ⟨i, hlt, by omega, j, hji, ?_, ?_⟩
    · rw [List.getElem?_append_left hlt]; exact hi
    · rw [List.getElem?_append_left (by omega)]; exact hj

/-! ### `can_declare_draw` -/

theorem canDeclareDraw_true_result {T : Tables} {g : Game} (h : g.canDeclareDraw T = some true) :
    g.result T = some none := by
  unfold canDeclareDraw at h
  split at h
  · cases h
  · cases h
  · assumption

theorem canDeclareDraw_of_result {T : Tables} {g : Game} {r : GameResult}
    (hr : g.result T = some (some r)) : g.canDeclareDraw T = some false := by
  unfold canDeclareDraw; rw [hr]

theorem canDeclareDraw_eq_none_iff (T : Tables) (g : Game) :
    g.canDeclareDraw T = none ↔ g.currentPosition T = none := by
  unfold canDeclareDraw
  cases hr : g.result T with
  | none => simpa using (result_eq_none_iff T g).1 hr
  | some r =>
    obtain ⟨cur, hc⟩ := currentPosition_of_result hr
    have := drawScan_isSome T g
    rw [hc] at this
    obtain ⟨st, hd⟩ := Option.isSome_iff_exists.1 this
    cases r <;> simp [hc, hd]

theorem canDeclareDraw_iff (T : Tables) (g : Game) :
    g.canDeclareDraw T = some true ↔
      g.result T = some none ∧ ∃ st, g.drawScan T = some st ∧
        (100 ≤ st.reversible ∨ 3 ≤ st.seen.count (entry T st.board)) := by
  unfold canDeclareDraw
  cases hr : g.result T with
  | none => simp
  | some r =>
    cases r with
    | some r => simp
    | none =>
      cases hd : drawScan T g with
      | none => simp
      | some st =>
        simp only [ge_iff_le, Option.some.injEq, Bool.or_eq_true, decide_eq_true_eq, true_and,
          exists_eq_left']
        rw [threefold_iff _ _ (drawScan_board_last hd).2]

/-! ### the five operations, uniformly -/

/-- a request is an `Action`; `perform` dispatches to the five mutating methods -/
def perform (T : Tables) (g : Game) : Action → Option (Game × Bool)
  | .makeMove m => g.makeMove T m
  | .offerDraw c => g.offerDraw T c
  | .acceptDraw => g.acceptDraw T
  | .declareDraw => g.declareDraw T
  | .resign c => g.resign T c

/-- the test of `accept_draw` on the log: the last action is a draw offer, or the action before it is a
draw offer by the side that is not to move (`moves[n-2]` is read without looking at `moves[n-1]`) -/
def acceptTest (g : Game) : Bool :=
  decide (g.moves.length > 0 ∧ (g.moves[g.moves.length - 1]? = some (.offerDraw .white) ∨
      g.moves[g.moves.length - 1]? = some (.offerDraw .black))) ||
  decide (g.moves.length > 1 ∧ g.moves[g.moves.length - 2]? = some (.offerDraw g.sideToMove.other))

/-- what an operation requires of its request, beyond the game having no result -/
def admits (T : Tables) (g : Game) : Action → Bool
  | .makeMove m => (g.currentPosition T).any (·.legal T m)
  | .acceptDraw => acceptTest g
  | .declareDraw => g.canDeclareDraw T == some true
  | _ => true

theorem admits_makeMove {T : Tables} {g : Game} {m : Move} :
    admits T g (.makeMove m) = true ↔ ∃ cur, g.currentPosition T = some cur ∧ cur.legal T m = true :=
  Option.any_eq_true _ _

theorem admits_declareDraw {T : Tables} {g : Game} :
    admits T g .declareDraw = true ↔ g.canDeclareDraw T = some true := beq_iff_eq

/-- **every operation at once**: it panics exactly when `result` does; a request is accepted when the
game has no result and the request passes the operation's own test, and is then appended to the log;
otherwise the game is returned unchanged -/
theorem perform_eq (T : Tables) (g : Game) (a : Action) :
    g.perform T a = (g.result T).map fun r =>
      if r.isNone && admits T g a then ({ g with moves := g.moves ++ [a] }, true) else (g, false) := by
  cases hr : g.result T with
  | none =>
    cases a <;> simp only [perform, makeMove, offerDraw, resign, acceptDraw, declareDraw, canDeclareDraw, hr,
      Option.map_none]
  | some r =>
    cases r with
    | some r =>
      cases a <;> simp only [perform, makeMove, offerDraw, resign, acceptDraw, declareDraw, canDeclareDraw, hr,
        Option.map_some] <;> rfl
    | none =>
      simp only [Option.map_some, Option.isNone_none, Bool.true_and]
      cases a with
      | makeMove m =>
        obtain ⟨cur, hc⟩ := currentPosition_of_result hr
        simp only [perform, makeMove, admits, hr, hc, Option.any_some]
        split <;> rfl
      | offerDraw c => simp only [perform, offerDraw, hr, Option.map_some]; rfl
      | resign c => simp only [perform, resign, hr, Option.map_some]; rfl
      | acceptDraw =>
        simp only [perform, acceptDraw, hr, Option.map_some, admits, acceptTest, Bool.or_eq_true,
          decide_eq_true_eq]
        split
        · rw [if_pos (.inl ‹_›)]
        · split
          · rw [if_pos (.inr ‹_›)]
          · rw [if_neg (not_or.2 ⟨‹_›, ‹_›⟩)]
      | declareDraw =>
        cases hd : g.canDeclareDraw T with
        | none =>
          obtain ⟨cur, hc⟩ := currentPosition_of_result hr
          rw [(canDeclareDraw_eq_none_iff T g).1 hd] at hc; cases hc
        | some ok => simp only [perform, declareDraw, hd, admits]; cases ok <;> rfl

theorem perform_spec {T : Tables} {g g' : Game} {a : Action} {acc : Bool}
    (h : g.perform T a = some (g', acc)) :
    (acc = true ↔ g.result T = some none ∧ admits T g a = true) ∧
    (acc = true → g' = { g with moves := g.moves ++ [a] }) ∧ (acc = false → g' = g) := by
  rw [perform_eq] at h
  obtain ⟨r, hr, h⟩ := Option.map_eq_some_iff.1 h
  cases r with
  | some r => cases h; simp [hr]
  | none => cases ha : admits T g a <;> simp only [ha] at h <;> cases h <;> simp [hr]

theorem perform_log {T : Tables} {g g' : Game} {a : Action} {acc : Bool}
    (h : g.perform T a = some (g', acc)) :
    g'.startPos = g.startPos ∧ (acc = true → g'.moves = g.moves ++ [a]) ∧ (acc = false → g' = g) := by
  obtain ⟨_, h1, h2⟩ := perform_spec h
  cases acc
  · simp [h2 rfl]
  · simp [h1 rfl]

theorem perform_of_result {T : Tables} {g : Game} {r : GameResult}
    (hr : g.result T = some (some r)) (a : Action) : g.perform T a = some (g, false) := by
  rw [perform_eq, hr]; rfl

theorem perform_accepted {T : Tables} {g g' : Game} {a : Action}
    (h : g.perform T a = some (g', true)) :
    g.result T = some none ∧
      ∀ m, a = .makeMove m → ∃ cur, g.currentPosition T = some cur ∧ cur.legal T m = true := by
  obtain ⟨hr, ha⟩ := (perform_spec h).1.1 rfl
  exact ⟨hr, fun m hm => by subst hm; exact admits_makeMove.1 ha⟩

theorem declareDraw_spec {T : Tables} {g g' : Game} {acc : Bool}
    (h : g.declareDraw T = some (g', acc)) :
    (acc = true ↔ g.canDeclareDraw T = some true) ∧
    (acc = true → g' = { g with moves := g.moves ++ [.declareDraw] }) ∧ (acc = false → g' = g) := by
  obtain ⟨h1, h2⟩ := perform_spec (a := .declareDraw) h
  refine ⟨h1.trans ?_, h2⟩
  rw [admits_declareDraw, and_iff_right_iff_imp]
  exact canDeclareDraw_true_result

/-- on a game without result the test of `accept_draw` says: the last action is a draw offer, or it is
a move and the action before it is a draw offer by the side that made the move.  (That `moves[n-1]` is a
move when `moves[n-2]` is consulted follows from the game having no result.) -/
theorem acceptTest_iff {T : Tables} {g : Game} (hr : g.result T = some none) :
    acceptTest g = true ↔
      (∃ c, g.moves.getLast? = some (.offerDraw c)) ∨
      (∃ m pre, g.moves = pre ++ [.offerDraw g.sideToMove.other, .makeMove m]) := by
  obtain ⟨cur, _, _, hl⟩ := result_none_iff.1 hr
  simp only [acceptTest, Bool.or_eq_true, decide_eq_true_eq, ← List.getLast?_eq_getElem?]
  constructor
  · rintro (⟨_, h | h⟩ | ⟨hn, h2⟩)
    · exact .inl ⟨_, h⟩
    · exact .inl ⟨_, h⟩
    · rcases hl with hl | ⟨m, hl⟩ | ⟨c, hl⟩
      · rw [List.getLast?_eq_none_iff.1 hl] at hn; cases hn
      · obtain ⟨ys, hys⟩ := List.getLast?_eq_some_iff.1 hl
        rw [hys, List.length_append, List.length_singleton] at hn h2
        rw [Nat.add_sub_add_right, List.getElem?_append_left (by omega), ← List.getLast?_eq_getElem?] at h2
        obtain ⟨pre, hpre⟩ := List.getLast?_eq_some_iff.1 h2
        exact .inr ⟨m, pre, by rw [hys, hpre, List.append_assoc]; rfl⟩
      · exact .inl ⟨c, hl⟩
  · rintro (⟨c, hc⟩ | ⟨m, pre, hm⟩)
    · have hne : g.moves ≠ [] := fun e => by rw [e] at hc; cases hc
      refine .inl ⟨List.length_pos_iff.2 hne, ?_⟩
      cases c
      · exact .inl hc
      · exact .inr hc
    · refine .inr ?_
      rw [hm]
      simp

/-! ### the log invariant -/

/-- every action of the log was accepted: the game consisting of the actions before it had no
result, and if it is a move, the move was legal in the position reached before it -/
def LogOK (T : Tables) (g : Game) : Prop :=
  ∀ k a, g.moves[k]? = some a →
    result T ⟨g.startPos, g.moves.take k⟩ = some none ∧
    ∀ m, a = .makeMove m →
      ∃ cur, currentPosition T ⟨g.startPos, g.moves.take k⟩ = some cur ∧ cur.legal T m = true

theorem LogOK_snoc {T : Tables} {g : Game} {a : Action} (h : LogOK T g)
    (hr : g.result T = some none)
    (hm : ∀ m, a = .makeMove m → ∃ cur, g.currentPosition T = some cur ∧ cur.legal T m = true) :
    LogOK T { g with moves := g.moves ++ [a] } := by
  intro k x hk
  simp only at hk ⊢
  by_cases hlt : k < g.moves.length
  · rw [List.getElem?_append_left hlt] at hk
    rw [List.take_append_of_le_length (by omega)]
    exact h k x hk
  · have hk' := (List.getElem?_eq_some_iff.1 hk).1
    simp only [List.length_append, List.length_cons, List.length_nil] at hk'
    obtain rfl : k = g.moves.length := by omega
    simp only [List.getElem?_append_right (Nat.le_refl _), Nat.sub_self, List.getElem?_cons_zero,
      Option.some.injEq] at hk
    subst hk
    rw [List.take_left' rfl]
    exact ⟨hr, hm⟩

/-- the replay of a log satisfying the invariant cannot panic, provided a legal move of a position
*of this game* never hits the `unwrap` of `make_move_new` (see `Props/C10.lean` for why this
hypothesis cannot be dropped for arbitrary `Board` values) -/
theorem LogOK_currentPosition_isSome {T : Tables} {g : Game} (h : LogOK T g)
    (hsafe : ∀ k cur m, currentPosition T ⟨g.startPos, g.moves.take k⟩ = some cur →
      cur.legal T m = true → (cur.makeMoveNew T m).isSome) :
    (g.currentPosition T).isSome := by
  obtain ⟨s, l⟩ := g
  rcases List.eq_nil_or_concat l with rfl | ⟨pre, a, rfl⟩
  · rfl
  · rw [List.concat_eq_append] at h hsafe ⊢
    have hk := h pre.length a (by simp)
    simp only [List.take_left' rfl] at hk
    cases a with
    | makeMove m =>
      obtain ⟨cur, hcur, hl⟩ := hk.2 m rfl
      rw [currentPosition_snoc_move, hcur]
      exact hsafe pre.length cur m (by simpa using hcur) hl
    | _ =>
      obtain ⟨cur, hcur⟩ := currentPosition_of_result hk.1
      rw [currentPosition_snoc_other _ _ _ _ rfl, hcur]; rfl

/-- perform the requests in order; returns the final game and the requests that were accepted -/
def run (T : Tables) : Game → List Action → Option (Game × List Action)
  | g, [] => some (g, [])
  | g, a :: rest =>
    match g.perform T a with
    | none => none
    | some (g', acc) => (run T g' rest).map fun (gf, l) => (gf, if acc then a :: l else l)

theorem run_cons_eq_some {T : Tables} {g gf : Game} {a : Action} {rest accd : List Action}
    (h : run T g (a :: rest) = some (gf, accd)) :
    ∃ g' acc l, g.perform T a = some (g', acc) ∧ run T g' rest = some (gf, l) ∧
      accd = if acc then a :: l else l := by
  unfold run at h
  split at h
  · cases h
  · rename_i g' acc hp
    obtain ⟨⟨gf', l⟩, hr, h⟩ := Option.map_eq_some_iff.1 h
    cases h
    exact ⟨g', acc, l, hp, hr, rfl⟩

end Game
end Chess
