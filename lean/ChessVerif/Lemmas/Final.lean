import ChessVerif.Props.C01NonKing
import ChessVerif.Props.C01King
import ChessVerif.Props.C01Ep
import ChessVerif.Props.C03Step
import ChessVerif.Lemmas.SanScan
/-!
# C01, the main theorem: generated = legal on every `Good` board; play by generated moves

* `ep_other_checker`: in a position with an en-passant mark (`epValid`), an enemy man other than the marked
  pawn that gives check still gives check after any en-passant capture: the capture can take the checking
  pawn but never interposes.  Hence no en-passant capture is legal in double check
  (`ep_illegal_double_check`).
* `movegen_mem_iff`: `m ∈ b.legalMoves T ↔ legal b.abs m = true` on every `Good` board
  (`Lemmas/PinOKStep.lean`), all three check regimes of `enumerate_moves`; with it `movegen_nodup`,
  `legal_query_eq`, `legalMoves_perm`.
* `PlaysTo T b₀ b`, `PlayReachable T b`: play by null moves and moves of the generated list, from a given
  board and from any board `try_from` sets up with a valid position.  `Good` holds along it, castling rights
  and material only shrink (`Shrinks`), and `PlayReachable` is `PinStep.Reached`, the same with FIDE-legal
  moves (`playReachable_iff_reached`).
-/
namespace Chess
namespace Final
open PinCheck Entries Assemble EnPassant

/-- `org`, `mid`, `q` three consecutive squares of a file; if `org` and `mid` are strictly between `y` and
`k`, then `q` is `y`, `k`, or strictly between them too -/
theorem ep_file_between {y k org mid q : Sq} {s : Int} (hs : s = 1 ∨ s = -1)
    (hmf : mid.file = org.file) (hmr : mid.rank = org.rank + s)
    (hqf : q.file = org.file) (hqr : q.rank = org.rank + 2 * s)
    (h1 : strictlyBetween y org k = true) (h2 : strictlyBetween y mid k = true) :
    q = y ∨ q = k ∨ strictlyBetween y q k = true := by
  obtain ⟨u, n, t, t0, tn, hK, hO⟩ := At_of_sb h1
  obtain ⟨t', t0', tn', hM⟩ := At_of_sb_dir (by omega) hK h2
  have hY := At.zero y u
  have key : At y u (2 * t' - t) q ∧ 0 ≤ 2 * t' - t ∧ 2 * t' - t ≤ n := by
    unfold At at hO hM ⊢
    -- two squares of one file on the ray: the ray runs along the file
    have hdf : u.df = 0 := by
      have h0 : (t' - t) * u.df = 0 := by rw [Int.sub_mul]; omega
      refine (Int.mul_eq_zero.mp h0).resolve_left fun h => ?_
      have e : t' = t := by omega
      rw [e] at hM
      omega
    have hdr : u.dr = 1 ∨ u.dr = -1 := by cases u <;> simp [Dir.df, Dir.dr] at hdf ⊢
    rw [hdf] at hO hM ⊢
    rcases hdr with h | h <;> rw [h] at hO hM ⊢ <;> omega
  obtain ⟨hQ, j0, jn⟩ := key
  by_cases e0 : 2 * t' - t = 0
  · left; rw [e0] at hQ; exact At.ext hQ hY
  · by_cases en : 2 * t' - t = n
    · right; left; rw [en] at hQ; exact At.ext hQ hK
    · right; right; exact sb_of_At_lt hY hQ hK (by omega) (by omega)

/-- an enemy man other than the pawn that has just made its double step and that attacks the mover's king
attacks it still after any en-passant capture (whose destination is the square `mid` passed over) -/
theorem ep_other_checker {p : Pos} {q mid org k : Sq} (hf : EpFacts p q mid org) {m : Move}
    (hc : EpCtx p m k q) (hd : m.dst = mid) {y : Sq} (hy : p.colorAt y = some p.stm.other)
    (hyq : y ≠ q) (ha : attacks p y k = true) : inCheck (apply p m) p.stm = true := by
  have hK := hc.king
  obtain ⟨pc, hby⟩ := (colorAt_iff p y _).mp hy
  have hpcE : ∀ z, strictlyBetween y z k = true → p.empty z = true := by
    have ha' := ha
    rw [attacks_eq, Bool.or_eq_true, Bool.and_eq_true, pathClear_iff] at ha'
    exact (ha'.resolve_right fun ha' => hyq (leapers_do_not_check hf hK hy ha')).2
  have hyo : y ≠ org := by intro e; rw [e, hf.orgE] at hby; cases hby
  -- the start square of the pushed pawn is on the checker's line: before the push the king was not in check
  have horg : strictlyBetween y org k = true := by
    cases hsb : strictlyBetween y org k with
    | true => rfl
    | false =>
      exfalso
      have hic := hf.pred
      rw [KingMoves.inCheck_eq (predPos_kingAt hf hK), ← Bool.not_eq_true, KingMoves.attackedBy_iff] at hic
      have hpy : (predPos p q org).board y = p.board y := by
        rw [predPos_board, if_neg hyo, if_neg hyq]
      refine hic ⟨y, by unfold Pos.colorAt; rw [hpy]; exact hy, KingMoves.attacks_mono hpy (fun z hz he => ?_) ha⟩
      unfold Pos.empty at he ⊢
      rw [predPos_board, if_neg fun e => by rw [e, hsb] at hz; cases hz]
      split
      · rfl
      · exact he
  have hmid : strictlyBetween y m.dst k = false := by
    cases h : strictlyBetween y m.dst k with
    | false => rfl
    | true =>
      exfalso
      rw [hd] at h
      have hmr : mid.rank = org.rank + p.stm.other.fwd := by
        have h1 := hf.midR; have h2 := hf.orgR; have h3 := hf.rank; omega
      have hqr : q.rank = org.rank + 2 * p.stm.other.fwd := by
        have h2 := hf.orgR; have h3 := hf.rank; omega
      rcases ep_file_between (fwd_cases p.stm.other) (hf.midF.trans hf.orgF.symm) hmr hf.orgF.symm hqr horg h
        with e | e | e
      · exact hyq e.symm
      · exact hc.k_ne_q e.symm
      · have := hpcE q e
        unfold Pos.empty at this
        rw [hf.pawn] at this; cases this
  have hby' : (apply p m).board y = p.board y := ((hc.after_enemy y pc).mpr ⟨hyq, hby⟩).trans hby.symm
  rw [KingMoves.inCheck_eq hc.after_king, KingMoves.attackedBy_iff]
  refine ⟨y, by unfold Pos.colorAt; rw [hby']; exact hy, KingMoves.attacks_mono hby' (fun z hz he => ?_) ha⟩
  unfold Pos.empty at he ⊢
  rw [hc.after_board, if_neg fun e => by rw [e, hmid] at hz; cases hz]
  split
  · rfl
  · split
    · rfl
    · exact he

variable {T : Tables} {b : Board}

theorem _root_.Chess.Board.Good.exact (hT : TablesOK T) (h : b.Good T) : Exact T b :=
  Exact.of_PinOK hT h.struct (h.oneKing b.stm) h.kingsApart h.pin

theorem _root_.Chess.Board.Good.ownKing_ne_zero (h : b.Good T) : own b .king ≠ 0#64 := by
  intro h0
  have hk := h.oneKing b.stm
  have e : b.kings &&& b.colorCombined b.stm = 0#64 := h0
  rw [e] at hk
  revert hk; decide

theorem _root_.Chess.Board.Good.inCheck_of_checkers_ne (hT : TablesOK T) (h : b.Good T) (h0 : b.checkers ≠ 0#64) :
    inCheck b.abs b.stm = true := by
  cases hh : inCheck b.abs b.stm with
  | true => rfl
  | false => exact absurd ((h.checkers_zero_iff hT).mpr hh) h0

/-- in double check no en-passant capture is legal: one of the two checkers is not the marked pawn, and it
still gives check afterwards -/
theorem ep_illegal_double_check (hT : TablesOK T) (h : b.Good T) (h0 : b.checkers ≠ 0#64)
    (h1 : b.checkers.popcnt ≠ 1) {m : Move} (hl : legal b.abs m = true)
    (hep : isEnPassant b.abs m = true) : False := by
  have hE := h.exact hT
  obtain ⟨q, mid, org, _, hf, hc, hd⟩ :=
    epCtx_of_capture hT h.struct (h.oneKing b.stm) h.validP.ep (Closure.legal_pseudo hl) hep
  have hks : kingSq? b.abs b.abs.stm = some (b.kingSquare b.stm) := hE.kingSq
  have hchk : ∀ x, checkerSq b.abs x = true →
      b.abs.colorAt x = some b.abs.stm.other ∧ attacks b.abs x (b.kingSquare b.stm) = true := by
    intro x hx
    unfold checkerSq at hx
    rw [hks] at hx
    simp only [Bool.and_eq_true, beq_iff_eq] at hx
    exact hx
  obtain ⟨x, y, hx, hy, hne⟩ := two_checkers hE.checkers h0 h1
  obtain ⟨z, hz, hzq⟩ : ∃ z, checkerSq b.abs z = true ∧ z ≠ q := by
    by_cases hxq : x = q
    · exact ⟨y, hy, fun e => hne (hxq.trans e.symm)⟩
    · exact ⟨x, hx, hxq⟩
  have := ep_other_checker hf hc hd (hchk z hz).1 hzq (hchk z hz).2
  unfold legal at hl
  rw [Bool.and_eq_true, this] at hl
  cases hl.2

theorem king_move_iff (hT : TablesOK T) (h : b.Good T) (ic : Bool) (hic : inCheck b.abs b.stm = ic)
    (m : Move) (hsrc : m.src = b.kingSquare b.stm) :
    ((destsKing T b ic).getLsbD m.dst.val = true ∧ m.promo = none) ↔ legal b.abs m = true := by
  have hs := h.struct
  have hd := KingMoves.destsKing_iff hT hs (h.oneKing b.stm) (KingMoves.backed_of_valid hs h.valid) ic hic m.dst
  obtain ⟨src, dst, pr⟩ := m
  subst hsrc
  cases pr with
  | none => exact (and_iff_left rfl).trans hd
  | some x =>
    refine ⟨fun h => (nomatch h.2), fun hl => ?_⟩
    have hpl := Closure.legal_pseudo hl
    unfold pseudoLegal at hpl
    rw [show b.abs.board (b.kingSquare b.stm) = _ from KingMoves.OneKing.board_king hs (h.oneKing b.stm)] at hpl
    simp at hpl

/-! ### generated = legal -/

theorem isMove_iff_legal (hT : TablesOK T) (h : b.Good T) {ic : Bool} (hr : Regime b ic)
    (hic : inCheck b.abs b.stm = ic) (m : Move) : IsMove T b ic m ↔ legal b.abs m = true := by
  have hE := h.exact hT
  have hepS := ep_section_iff hT h.struct (h.oneKing b.stm) h.validP.ep m
  constructor
  · rintro (ho | he | ⟨_, h2, h3⟩)
    · exact ((isOrdinary_iff hE hr m).mp ho).2.1
    · exact (hepS.mp he).1
    · exact (king_move_iff hT h ic hic m ‹_›).mp ⟨h2, h3⟩
  · intro hl
    by_cases hsrc : m.src = b.kingSquare b.stm
    · obtain ⟨h2, h3⟩ := (king_move_iff hT h ic hic m hsrc).mpr hl
      exact Or.inr (Or.inr ⟨hsrc, h2, h3⟩)
    · cases hep : isEnPassant b.abs m with
      | false => exact Or.inl ((isOrdinary_iff hE hr m).mpr ⟨hsrc, hl, hep⟩)
      | true => exact Or.inr (Or.inl (hepS.mpr ⟨hl, hep⟩))

/-- **generated ⇔ legal**, every move value, all three check regimes -/
theorem movegen_mem_iff (hT : TablesOK T) (h : b.Good T) (m : Move) :
    m ∈ b.legalMoves T ↔ legal b.abs m = true := by
  rw [mem_legalMoves_cases]
  split
  · rename_i h0
    exact isMove_iff_legal hT h (Or.inl ⟨rfl, h0⟩) ((h.checkers_zero_iff hT).mp h0) m
  · rename_i h0
    have hic := h.inCheck_of_checkers_ne hT h0
    split
    · rename_i h1
      exact isMove_iff_legal hT h (Or.inr ⟨rfl, h1⟩) hic m
    · rename_i h1
      constructor
      · rintro ⟨hsrc, h2, h3⟩
        exact (king_move_iff hT h true hic m hsrc).mp ⟨h2, h3⟩
      · intro hl
        by_cases hsrc : m.src = b.kingSquare b.stm
        · obtain ⟨h2, h3⟩ := (king_move_iff hT h true hic m hsrc).mpr hl
          exact ⟨hsrc, h2, h3⟩
        · exfalso
          cases hep : isEnPassant b.abs m with
          | false =>
            have := double_check_illegal (h.exact hT) h0 h1 hsrc hep
            rw [hl] at this; cases this
          | true => exact ep_illegal_double_check hT h h0 h1 hl hep

theorem movegen_nodup (hT : TablesOK T) (h : b.Good T) : (b.legalMoves T).Nodup :=
  legalMoves_nodup T b h.struct h.ownKing_ne_zero (noEpClash hT h.struct h.validP.ep _)

/-- `Board::legal(m)` answers FIDE legality -/
theorem legal_query_eq (hT : TablesOK T) (h : b.Good T) (m : Move) : b.legal T m = legal b.abs m :=
  Bool.eq_iff_iff.mpr ((legal_query_iff T b m).trans (movegen_mem_iff hT h m))

/-! ### play by generated moves -/

theorem good_makeMove_generated (hT : TablesOK T) (hg : b.Good T) {m : Move} (hm : m ∈ b.legalMoves T)
    {b' : Board} (h : b.makeMoveNew T m = some b') :
    b'.Good T ∧ b'.abs = norm (apply b.abs m) ∧ legal b.abs m = true := by
  have hl := (movegen_mem_iff hT hg m).mp hm
  obtain ⟨b'', e, hg', habs⟩ := hg.makeMove hT hl
  rw [h] at e
  injection e with e
  subst e
  exact ⟨hg', habs, hl⟩

/-- a generated move can always be made (no panic) -/
theorem makeMove_generated_some (hT : TablesOK T) (hg : b.Good T) {m : Move} (hm : m ∈ b.legalMoves T) :
    ∃ b', b.makeMoveNew T m = some b' :=
  let ⟨b', e, _⟩ := hg.makeMove hT ((movegen_mem_iff hT hg m).mp hm)
  ⟨b', e⟩

/-- the boards reached from the board `b₀` by the library's own operations: null moves and moves taken
from the generated move list -/
inductive PlaysTo (T : Tables) (b₀ : Board) : Board → Prop
  | refl : PlaysTo T b₀ b₀
  | null (b b' : Board) : PlaysTo T b₀ b → b.nullMove T = some b' → PlaysTo T b₀ b'
  | move (b b' : Board) (m : Move) : PlaysTo T b₀ b → m ∈ b.legalMoves T → b.makeMoveNew T m = some b' →
      PlaysTo T b₀ b'

/-- boards set up directly (`try_from` accepts and the position is valid) or reached from such a board by
any sequence of null moves and generated moves -/
inductive PlayReachable (T : Tables) : Board → Prop
  | start (bd : Builder) (b : Board) : Board.tryFrom T bd = some b → Valid b.abs = true → PlayReachable T b
  | null (b b' : Board) : PlayReachable T b → b.nullMove T = some b' → PlayReachable T b'
  | move (b b' : Board) (m : Move) : PlayReachable T b → m ∈ b.legalMoves T → b.makeMoveNew T m = some b' →
      PlayReachable T b'

theorem PlaysTo.good (hT : TablesOK T) {b₀ : Board} (h0 : b₀.Good T) {b : Board} (h : PlaysTo T b₀ b) :
    b.Good T := by
  induction h with
  | refl => exact h0
  | null b b' _ hn ih => exact ih.nullMove hT hn
  | move b b' m _ hm hmk ih => exact (good_makeMove_generated hT ih hm hmk).1

/-- reachability by generated moves is reachability by FIDE-legal moves (`PinStep.Reached`) -/
theorem playReachable_iff_reached (hT : TablesOK T) (b : Board) : PlayReachable T b ↔ PinStep.Reached T b := by
  constructor
  · intro h
    induction h with
    | start bd b ht hv => exact .start bd b ht hv
    | null b b' _ hn ih => exact .null b b' ih hn
    | move b b' m _ hm hmk ih => exact .move b b' m ih ((movegen_mem_iff hT (ih.inv hT).good m).mp hm) hmk
  · intro h
    induction h with
    | start bd b ht hv => exact .start bd b ht hv
    | null b b' _ hn ih => exact .null b b' ih hn
    | move b b' m hb hl hmk ih => exact .move b b' m ih ((movegen_mem_iff hT (hb.inv hT).good m).mpr hl) hmk

theorem reachInv_of_playReachable (hT : TablesOK T) (h : PlayReachable T b) : PinStep.ReachInv T b :=
  ((playReachable_iff_reached hT b).mp h).inv hT

theorem PlayReachable.good (hT : TablesOK T) {b : Board} (h : PlayReachable T b) : b.Good T :=
  (reachInv_of_playReachable hT h).good

theorem PlaysTo.reachable {b₀ b : Board} (h0 : PlayReachable T b₀) (h : PlaysTo T b₀ b) : PlayReachable T b := by
  induction h with
  | refl => exact h0
  | null b b' _ hn ih => exact .null b b' ih hn
  | move b b' m _ hm hmk ih => exact .move b b' m ih hm hmk

/-! ### monotone quantities along play (C05 on the model) -/

/-- castling rights, men and pawns of `q` are at most those of `p` -/
structure Shrinks (p q : Pos) : Prop where
  castleK : ∀ c, q.castleK c = true → p.castleK c = true
  castleQ : ∀ c, q.castleQ c = true → p.castleQ c = true
  men : ∀ c, count q (·.2 == c) ≤ count p (·.2 == c)
  pawns : ∀ c, count q (· == (.pawn, c)) ≤ count p (· == (.pawn, c))

/-- `Shrinks p q` is `MonoLE q p`, the relation of the specification's histories (`Closure.playLegal_mono`) -/
theorem Shrinks.of_monoLE {p q : Pos} (h : MonoLE q p) : Shrinks p q := ⟨h.castleK, h.castleQ, h.men, h.pawns⟩

open Closure in
theorem PlaysTo.shrinks (hT : TablesOK T) {b₀ : Board} (h0 : b₀.Good T) {b : Board} (h : PlaysTo T b₀ b) :
    Shrinks b₀.abs b.abs := by
  refine .of_monoLE ?_
  induction h with
  | refl => exact MonoLE.refl _
  | null b b' _ hn ih =>
    rw [nullMove_abs hn]
    exact MonoLE.trans (b := b.abs) ⟨fun _ h => h, fun _ h => h, fun _ => Nat.le_refl _, fun _ => Nat.le_refl _⟩ ih
  | move b b' m hb hm hmk ih =>
    obtain ⟨_, habs, hl⟩ := good_makeMove_generated hT (hb.good hT h0) hm hmk
    rw [habs]
    exact MonoLE.trans (MonoLE.trans (monoLE_norm _) (monoLE_step (legal_pseudo hl))) ih

/-! ### the generated list against the specification's list -/

theorem candidates_nodup (p : Pos) : (candidates p).Nodup := by
  unfold candidates List.Nodup
  rw [List.pairwise_flatMap]
  constructor
  · intro s _
    rw [List.pairwise_flatMap]
    constructor
    · intro d _
      rw [List.pairwise_map]
      have hnd : (none :: promoPieces.map some).Nodup := by decide
      exact hnd.imp (fun hne heq => hne (by injection heq))
    · refine allSq_nodup.imp ?_
      intro d1 d2 hne x hx y hy hxy
      simp only [List.mem_map] at hx hy
      obtain ⟨_, _, hx⟩ := hx
      obtain ⟨_, _, hy⟩ := hy
      subst hx hy
      injection hxy with _ h2 _
      exact hne h2
  · refine (List.Nodup.sublist List.filter_sublist allSq_nodup).imp ?_
    intro s1 s2 hne x hx y hy hxy
    simp only [List.mem_flatMap, List.mem_map] at hx hy
    obtain ⟨_, _, _, _, hx⟩ := hx
    obtain ⟨_, _, _, _, hy⟩ := hy
    subst hx hy
    injection hxy with h1 _ _
    exact hne h1

theorem genExact (hT : TablesOK T) (h : b.Good T) : San.GenExact T b :=
  ⟨movegen_nodup hT h, fun m =>
    ⟨fun hm => let hl := (movegen_mem_iff hT h m).mp hm; ⟨hl, San.legal_mem_candidates hl⟩,
     fun hm => (movegen_mem_iff hT h m).mpr hm.1⟩⟩

theorem legalMoves_perm (hT : TablesOK T) (h : b.Good T) : (b.legalMoves T).Perm (Chess.legalMoves b.abs) := by
  show (b.legalMoves T).Perm ((candidates b.abs).filter (legal b.abs))
  rw [List.perm_ext_iff_of_nodup (movegen_nodup hT h)
    (List.Nodup.sublist List.filter_sublist (candidates_nodup b.abs))]
  intro m
  rw [List.mem_filter, (genExact hT h).2 m]
  exact And.comm

theorem good_of_reachInv (h : PinStep.ReachInv T b) : b.Good T := h.good

end Final
end Chess
