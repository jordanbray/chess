import ChessVerif.Lemmas.GameRefine
import ChessVerif.Lemmas.Irreversible
/-!
# The Model game refines the Spec game — part B: draw claims

The model's `can_declare_draw` scans the log and keeps a counter `reversible` and a list `seen` of
`(get_hash, legal move list)` entries since the last pawn move, capture or change of castling rights.  The
Spec counts the occurrences of the current `Pos.key` in the *whole* history and keeps a half-move `clock`.

* B1 `isPawnOrCapture_eq`, `rightsChanged_eq`: the model's tests are the Spec's.
* `SimH`: `Sim` extended by the scan: `reversible = clock`, and the Spec history splits into `old ++ new` with
  `seen` = the entries of the (`Good`) boards of `new`, every position of `old` having a strictly larger
  potential `Φ` (`Lemmas/Irreversible.lean`) than the current one.
* B3 `seen_count_eq_occurrences`: under `NoCollision` the number of occurrences of the current entry in `seen`
  is the number of occurrences of the current position in the whole history.
* B4 `canDeclareDraw_iff_claimable`, `simH_perform`, `simH_run`.
-/
namespace Chess
namespace GameRefine
open Chess.Game Chess.Props Chess.Irreversible

variable {T : Tables}

/-! ### B1: the model's tests are the Spec's -/

/-- "a pawn stands on the source square or the destination is occupied" is the Spec's "pawn move or capture"
(an en-passant capture is a pawn move) -/
theorem isPawnOrCapture_eq {b : Board} (hs : Struct b) (m : Move) :
    isPawnOrCapture b m = Spec.GameSt.isCaptureOrPawn b.abs m := by
  unfold isPawnOrCapture Spec.GameSt.isCaptureOrPawn Pos.empty
  rw [abs_board]
  congr 1
  · cases hc : b.content m.src with
    | none => rw [pieceOn_of_content_none hs hc]; rfl
    | some x =>
      obtain ⟨pc, c⟩ := x
      rw [pieceOn_of_content hs hc]
      cases pc <;> rfl
  · cases hc : b.content m.dst with
    | none => rw [pieceOn_of_content_none hs hc]; rfl
    | some x =>
      obtain ⟨pc, c⟩ := x
      rw [pieceOn_of_content hs hc]; rfl

theorem rightsChanged_eq (b b' : Board) : rightsChanged b b' = (rightsList b'.abs != rightsList b.abs) := by
  show decide (b'.wcr ≠ b.wcr ∨ b'.bcr ≠ b.bcr) =
    ([b'.wcr.ks, b'.wcr.qs, b'.bcr.ks, b'.bcr.qs] != [b.wcr.ks, b.wcr.qs, b.bcr.ks, b.bcr.qs])
  have ext : ∀ x y : CastleRights, x = y ↔ x.ks = y.ks ∧ x.qs = y.qs := fun ⟨_, _⟩ ⟨_, _⟩ => by simp
  rw [Bool.eq_iff_iff]
  simp only [decide_eq_true_eq, bne_iff_ne, ne_eq, List.cons.injEq, and_true, ext,
    ← Decidable.not_and_iff_not_or_not, and_assoc]

theorem cut_eq {b b' : Board} (hs : Struct b) (m : Move) (habs : b'.abs = norm (apply b.abs m)) :
    (isPawnOrCapture b m || rightsChanged b b') = irreversible b.abs m := by
  rw [isPawnOrCapture_eq hs, rightsChanged_eq, habs]
  rfl

/-! ### the extended relation -/

structure ScanInv (T : Tables) (g : Game) (sg : Spec.GameSt) (st : DrawScan) (old : List Pos)
    (newB : List Board) : Prop where
  scan : g.drawScan T = some st
  clock : st.reversible = sg.clock
  hist : sg.history = old ++ newB.map Board.abs
  seen : st.seen = newB.map (entry T)
  good : ∀ b ∈ newB, b.Good T
  cur : st.board ∈ newB
  oldΦ : ∀ q ∈ old, Φ sg.pos < Φ q
  newΦ : ∀ b ∈ newB, Φ sg.pos ≤ Φ b.abs

/-- `Sim` plus: the scan of `can_declare_draw` agrees with the Spec's clock and history -/
def SimH (T : Tables) (g : Game) (sg : Spec.GameSt) : Prop :=
  Sim T g sg ∧ ∃ st old newB, ScanInv T g sg st old newB

theorem SimH.sim {g : Game} {sg : Spec.GameSt} (h : SimH T g sg) : Sim T g sg := h.1

theorem simH_init {b0 : Board} (h0 : b0.Good T) : SimH T ⟨b0, []⟩ (Spec.GameSt.init b0.abs) :=
  ⟨sim_init h0, scanInit T b0, [], [b0],
    { scan := rfl, clock := rfl, hist := rfl, seen := rfl
      good := fun _ hb => List.mem_singleton.1 hb ▸ h0
      cur := List.mem_singleton_self _
      oldΦ := fun _ hq => nomatch hq
      newΦ := fun _ hb => List.mem_singleton.1 hb ▸ Nat.le_refl _ }⟩

theorem simH_snoc_other {g : Game} {sg : Spec.GameSt} (h : SimH T g sg) (a : Action) (ha : isMove a = false) :
    SimH T { g with moves := g.moves ++ [a] } { sg with log := sg.log ++ [a] } := by
  obtain ⟨hsim, st, old, newB, inv⟩ := h
  exact ⟨sim_snoc_other hsim a ha, st, old, newB,
    { inv with scan := (drawScan_append_other T _ _ a ha).trans inv.scan }⟩

theorem simH_board {g : Game} {sg : Spec.GameSt} {st : DrawScan} {old : List Pos} {newB : List Board}
    (hsim : Sim T g sg) (inv : ScanInv T g sg st old newB) : st.board.Good T ∧ st.board.abs = sg.pos := by
  obtain ⟨cur, hc, hg, habs, _⟩ := hsim
  obtain rfl : cur = st.board := Option.some.inj (hc.symm.trans (drawScan_board_last inv.scan).1)
  exact ⟨hg, habs⟩

/-- a legal move: the scan takes one step; if the move is irreversible everything recorded so far becomes
old (its potential is strictly larger than the new one), otherwise the new board joins the list -/
theorem simH_snoc_move (hT : TablesOK T) {g : Game} {sg : Spec.GameSt} (h : SimH T g sg) (m : Move)
    (hl : legal sg.pos m = true) :
    SimH T { g with moves := g.moves ++ [.makeMove m] } (specPush sg (.makeMove m)) := by
  obtain ⟨hsim, st, old, newB, inv⟩ := h
  refine ⟨sim_snoc_move hT hsim m hl, ?_⟩
  obtain ⟨hg, habs⟩ := simH_board hsim inv
  rw [← habs] at hl
  obtain ⟨b', hmk, hg', habs'⟩ := hg.makeMove hT hl
  have hΦ := Φ_step (Closure.legal_pseudo hl)
  rw [← habs'] at hΦ
  obtain ⟨hΦle, hΦlt⟩ := hΦ
  have hold : ∀ q ∈ sg.history, Φ st.board.abs ≤ Φ q := by
    intro q hq
    rw [inv.hist, List.mem_append, List.mem_map] at hq
    rw [habs]
    rcases hq with hq | ⟨b, hb, rfl⟩
    · exact Nat.le_of_lt (inv.oldΦ q hq)
    · exact inv.newΦ b hb
  have hnew : ∀ b ∈ (if irreversible st.board.abs m then [] else newB) ++ [b'], b ∈ newB ∨ b = b' := by
    intro b hb
    rcases List.mem_append.1 hb with hb | hb
    · split at hb
      · cases hb
      · exact .inl hb
    · exact .inr (List.mem_singleton.1 hb)
  refine ⟨?_, if irreversible st.board.abs m then sg.history else old,
    (if irreversible st.board.abs m then [] else newB) ++ [b'], ?_⟩
  rotate_left
  exact
    { scan := by rw [drawScan_append_move, inv.scan, Option.bind_some, drawStep_eq, hmk]; rfl
      clock := by simp only [specPush, isPawnOrCapture_eq hg.struct, inv.clock, habs]
      hist := by
        simp only [specPush, ← habs, ← habs', List.map_append, List.map_cons, List.map_nil]
        split <;> simp [inv.hist]
      seen := by
        simp only [cut_eq hg.struct m habs', List.map_append, List.map_cons, List.map_nil]
        split <;> simp [inv.seen]
      good := fun b hb => by
        rcases hnew b hb with hb | rfl
        · exact inv.good b hb
        · exact hg'
      cur := List.mem_append_right _ (List.mem_singleton_self _)
      oldΦ := fun q hq => by
        simp only [specPush, ← habs, ← habs']
        split at hq
        · exact Nat.lt_of_lt_of_le (hΦlt ‹_›) (hold q hq)
        · exact Nat.lt_of_le_of_lt hΦle (habs ▸ inv.oldΦ q hq)
      newΦ := fun b hb => by
        simp only [specPush, ← habs, ← habs']
        rcases hnew b hb with hb | rfl
        · exact Nat.le_trans hΦle (habs ▸ inv.newΦ b hb)
        · exact habs' ▸ Nat.le_refl _ }

theorem simH_push (hT : TablesOK T) {g : Game} {sg : Spec.GameSt} (h : SimH T g sg) {a : Action}
    (ha : specAdmits sg a = true) : SimH T { g with moves := g.moves ++ [a] } (specPush sg a) := by
  cases a with
  | makeMove m => exact simH_snoc_move hT h m ha
  | _ => exact simH_snoc_other h _ rfl

/-! ### B3: `seen` against the whole history -/

/-- no two different positions of the history have the same `(get_hash, legal move list)` entry.  (Stated on the
`Good` boards holding them; such a board is determined by its position, `C03_board_determined_abs`, and its
`get_hash` is `Pos.hashOf` of the position, `C08_hash_pure`.) -/
def NoCollision (T : Tables) (H : List Pos) : Prop :=
  ∀ b₁ b₂ : Board, b₁.Good T → b₂.Good T → b₁.abs ∈ H → b₂.abs ∈ H →
    b₁.abs.hashOf T = b₂.abs.hashOf T → b₁.legalMoves T = b₂.legalMoves T →
    Spec.Pos.key b₁.abs = Spec.Pos.key b₂.abs

theorem NoCollision.mono {H H' : List Pos} (h : NoCollision T H') (hs : H ⊆ H') : NoCollision T H :=
  fun b₁ b₂ g₁ g₂ m₁ m₂ => h b₁ b₂ g₁ g₂ (hs m₁) (hs m₂)

theorem entry_eq_iff {H : List Pos} (hnc : NoCollision T H) {b₁ b₂ : Board} (g₁ : b₁.Good T) (g₂ : b₂.Good T)
    (m₁ : b₁.abs ∈ H) (m₂ : b₂.abs ∈ H) :
    entry T b₁ = entry T b₂ ↔ Spec.Pos.key b₁.abs = Spec.Pos.key b₂.abs := by
  constructor
  · intro he
    unfold entry at he
    rw [Prod.mk.injEq, getHash_eq_hashOf T b₁ g₁.core.hash, getHash_eq_hashOf T b₂ g₂.core.hash] at he
    exact hnc b₁ b₂ g₁ g₂ m₁ m₂ he.1 he.2
  · intro hk
    rw [PinStep.board_determined_abs g₁.core g₂.core g₁.pin g₂.pin (key_inj hk)]

theorem seen_count_eq_occurrences {g : Game} {sg : Spec.GameSt} {st : DrawScan} {old : List Pos}
    {newB : List Board} (inv : ScanInv T g sg st old newB) (habs : st.board.abs = sg.pos)
    (hnc : NoCollision T sg.history) : st.seen.count (entry T st.board) = sg.occurrences := by
  unfold Spec.GameSt.occurrences
  rw [inv.seen, inv.hist, List.filter_append, List.length_append]
  have hold : old.filter (fun q => Spec.Pos.key q == Spec.Pos.key sg.pos) = [] := by
    rw [List.filter_eq_nil_iff]
    intro q hq hk
    have := Φ_of_key (beq_iff_eq.1 hk)
    have := inv.oldΦ q hq
    omega
  rw [hold, List.length_nil, Nat.zero_add, List.count_eq_countP, List.countP_map, List.filter_map,
    List.length_map, ← List.countP_eq_length_filter]
  apply List.countP_congr
  intro b hb
  have hmem : ∀ b ∈ newB, b.abs ∈ sg.history := fun b hb => by
    rw [inv.hist]; exact List.mem_append_right _ (List.mem_map_of_mem hb)
  have := entry_eq_iff hnc (inv.good b hb) (inv.good _ inv.cur) (hmem b hb) (hmem _ inv.cur)
  rw [habs] at this
  simpa only [Function.comp, beq_iff_eq] using this

/-! ### B4: claiming -/

theorem scan_values {g : Game} {sg : Spec.GameSt} (h : SimH T g sg) (hnc : NoCollision T sg.history) :
    ∃ st, g.drawScan T = some st ∧ st.reversible = sg.clock ∧
      st.seen.count (entry T st.board) = sg.occurrences := by
  obtain ⟨hsim, st, old, newB, inv⟩ := h
  exact ⟨st, inv.scan, inv.clock, seen_count_eq_occurrences inv (simH_board hsim inv).2 hnc⟩

theorem canDeclareDraw_iff_claimable (hT : TablesOK T) {g : Game} {sg : Spec.GameSt} (h : SimH T g sg)
    (hnc : NoCollision T sg.history) : g.canDeclareDraw T = some true ↔ sg.claimable = true := by
  obtain ⟨st, hscan, hclock, hcount⟩ := scan_values h hnc
  rw [canDeclareDraw_iff, sim_result hT h.sim, hscan]
  simp only [Spec.GameSt.claimable, Option.some.injEq, exists_eq_left', hclock, hcount, Bool.and_eq_true,
    Bool.or_eq_true, decide_eq_true_eq, Option.isNone_iff_eq_none, Or.comm]

theorem admits_eq_of_simH (hT : TablesOK T) {g : Game} {sg : Spec.GameSt} (h : SimH T g sg)
    (hnc : NoCollision T sg.history) (a : Action) (hr : sg.result = none) :
    Game.admits T g a = specAdmits sg a := by
  by_cases ha : a = .declareDraw
  · subst ha
    rw [Bool.eq_iff_iff, admits_declareDraw]
    exact canDeclareDraw_iff_claimable hT h hnc
  · exact admits_eq hT h.sim ha hr

theorem simH_perform (hT : TablesOK T) {g g' : Game} {sg : Spec.GameSt} (h : SimH T g sg)
    (hnc : NoCollision T sg.history) {a : Action} {acc : Bool} (hp : g.perform T a = some (g', acc)) :
    acc = (sg.step a).2 ∧ SimH T g' (sg.step a).1 := by
  obtain ⟨hacc, ⟨hs, rfl, e⟩ | ⟨rfl, e⟩⟩ :=
    perform_cases hT h.sim (admits_eq_of_simH hT h hnc a) hp <;> rw [e]
  · exact ⟨hacc, simH_push hT h hs⟩
  · exact ⟨hacc, h⟩

theorem step_history_subset (sg : Spec.GameSt) (a : Action) : sg.history ⊆ (sg.step a).1.history := by
  rw [step_eq]
  split
  · cases a with
    | makeMove m => exact List.subset_append_left _ _
    | _ => exact List.Subset.refl _
  · exact List.Subset.refl _

theorem specRun_history_subset (sg : Spec.GameSt) (acts : List Action) :
    sg.history ⊆ (specRun sg acts).1.history := by
  induction acts generalizing sg with
  | nil => exact List.Subset.refl _
  | cons a rest ih => exact List.Subset.trans (step_history_subset sg a) (ih _)

/-- **refinement, draw claims included**: if no two different positions of the (Spec's) game have the same
`(hash, legal moves)` entry, the model run does not panic, accepts exactly the requests the Spec accepts and
ends in a related state -/
theorem simH_run (hT : TablesOK T) {g : Game} {sg : Spec.GameSt} (h : SimH T g sg) (acts : List Action)
    (hnc : NoCollision T (specRun sg acts).1.history) :
    ∃ gf, run T g acts = some (gf, (specRun sg acts).2) ∧ SimH T gf (specRun sg acts).1 := by
  induction acts generalizing g sg with
  | nil => exact ⟨g, rfl, h⟩
  | cons a rest ih =>
    obtain ⟨⟨g', acc⟩, hp⟩ := Option.isSome_iff_exists.1 (sim_perform_isSome hT h.sim a)
    obtain ⟨hacc, hs'⟩ := simH_perform hT h (hnc.mono (specRun_history_subset sg (a :: rest))) hp
    obtain ⟨gf, hrun, hsf⟩ := ih hs' hnc
    refine ⟨gf, ?_, hsf⟩
    simp only [run, hp, hrun, Option.map_some, specRun, hacc]

end GameRefine
end Chess
