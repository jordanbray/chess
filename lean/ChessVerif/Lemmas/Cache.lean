import ChessVerif.Model.Cache
import ChessVerif.Spec.Small
/-
Lemmas for C19: the model of `CacheTable` refines the slot-map specification `Spec.CacheSpec`,
for every sequence of operations, generically in the entry type.
-/
namespace Chess

/-! ### `count_ones = 1` iff power of two -/

theorem popcountNat_eq (n : Nat) : popcountNat n = n % 2 + popcountNat (n / 2) := by
  cases n with
  | zero => simp [popcountNat]
  | succ m => rw [popcountNat]

theorem popcountNat_eq_zero_iff (n : Nat) : popcountNat n = 0 ↔ n = 0 := by
  induction n using Nat.strongRecOn with
  | _ n ih =>
    rw [popcountNat_eq]
    refine ⟨fun h => ?_, fun h => by subst h; simp [popcountNat]⟩
    apply Classical.byContradiction
    intro hn
    have := (ih (n / 2) (by omega)).1 (by omega)
    omega

theorem popcountNat_two_pow (k : Nat) : popcountNat (2 ^ k) = 1 := by
  induction k with
  | zero => simp [popcountNat]
  | succ k ih => rw [popcountNat_eq, Nat.pow_succ, Nat.mul_mod_left, Nat.mul_div_cancel _ (by decide), ih]

theorem popcountNat_eq_one_iff (n : Nat) : popcountNat n = 1 ↔ ∃ k, n = 2 ^ k := by
  refine ⟨?_, fun ⟨k, hk⟩ => hk ▸ popcountNat_two_pow k⟩
  induction n using Nat.strongRecOn with
  | _ n ih =>
    intro h
    rw [popcountNat_eq] at h
    by_cases hn : n = 0
    · subst hn; simp [popcountNat] at h
    by_cases hodd : n % 2 = 1
    · have := (popcountNat_eq_zero_iff (n / 2)).1 (by omega)
      exact ⟨0, by omega⟩
    · obtain ⟨k, hk⟩ := ih (n / 2) (by omega) (by omega)
      exact ⟨k + 1, by rw [Nat.pow_succ]; omega⟩

theorem isPow2_iff (n : Nat) : Spec.isPow2 n = true ↔ ∃ k, k < 64 ∧ n = 2 ^ k := by
  unfold Spec.isPow2
  simp only [Bool.and_eq_true, List.any_eq_true, List.mem_range, beq_iff_eq, ne_eq,
    decide_eq_true_eq]
  constructor
  · rintro ⟨_, k, hk, h⟩; exact ⟨k, hk, h⟩
  · rintro ⟨k, hk, h⟩
    refine ⟨?_, k, hk, h⟩
    have := Nat.two_pow_pos k
    omega

theorem isPow2_iff_popcount (n : Nat) (hn : n < 2 ^ 64) : Spec.isPow2 n = true ↔ popcountNat n = 1 := by
  rw [isPow2_iff, popcountNat_eq_one_iff]
  constructor
  · rintro ⟨k, _, h⟩; exact ⟨k, h⟩
  · rintro ⟨k, h⟩
    refine ⟨k, ?_, h⟩
    apply Classical.byContradiction
    intro hk
    have : 2 ^ 64 ≤ 2 ^ k := Nat.pow_le_pow_right (by decide) (by omega)
    omega

/-! ### the specification's own laws -/

namespace Spec.CacheSpec
variable {α : Type}

theorem slotOf_add (s : CacheSpec α) (h h' : BB) (v : α) : (s.add h v).slotOf h' = s.slotOf h' := rfl

theorem cur_add_same (s : CacheSpec α) (h h' : BB) (v : α) (e : s.slotOf h' = s.slotOf h) :
    (s.add h v).cur h' = (h, v) := by
  unfold cur
  rw [slotOf_add]
  simp only [add, e, if_true, Option.getD_some]

theorem cur_add_other (s : CacheSpec α) (h h' : BB) (v : α) (e : s.slotOf h' ≠ s.slotOf h) :
    (s.add h v).cur h' = s.cur h' := by
  unfold cur
  rw [slotOf_add]
  simp only [add, e, if_false]

theorem get_add_self (s : CacheSpec α) (h : BB) (v : α) : (s.add h v).get h = some v := by
  unfold get
  rw [cur_add_same s h h v rfl]
  simp

theorem get_add_same_slot (s : CacheSpec α) (h h' : BB) (v : α) (hne : h' ≠ h)
    (e : s.slotOf h' = s.slotOf h) : (s.add h v).get h' = none := by
  unfold get
  rw [cur_add_same s h h' v e]
  exact if_neg (fun e' => hne e'.symm)

theorem get_add_other_slot (s : CacheSpec α) (h h' : BB) (v : α) (e : s.slotOf h' ≠ s.slotOf h) :
    (s.add h v).get h' = s.get h' := by
  unfold get
  rw [cur_add_other s h h' v e]

theorem get_untouched (s : CacheSpec α) (h : BB) (e : s.slots (s.slotOf h) = none) :
    s.get h = if h = 0#64 then some s.default else none := by
  unfold get cur
  rw [e]
  simp only [Option.getD_none]
  by_cases hh : h = 0#64
  · subst hh; simp
  · have : ¬ 0#64 = h := fun e => hh e.symm
    simp [hh, this]

end Spec.CacheSpec

namespace Cache
variable {α : Type}

/-! ### well-formedness: the table length is a power of two and the mask is length − 1 -/

def WF (c : Cache α) : Prop := ∃ k, c.table.length = 2 ^ k ∧ c.mask = 2 ^ k - 1

theorem WF.slot_lt {c : Cache α} (w : WF c) (h : BB) : c.slot h < c.table.length := by
  obtain ⟨k, hl, hm⟩ := w
  unfold slot
  rw [hm, hl, Nat.and_two_pow_sub_one_eq_mod]
  exact Nat.mod_lt _ (Nat.two_pow_pos k)

theorem WF.slot_eq {c : Cache α} (w : WF c) (h : BB) : c.slot h = h.toNat % c.table.length := by
  obtain ⟨k, hl, hm⟩ := w
  unfold slot
  rw [hm, hl, Nat.and_two_pow_sub_one_eq_mod]

theorem new_eq_some {size : Nat} {d : α} {c : Cache α} (h : Cache.new size d = some c) :
    popcountNat size = 1 ∧ c = ⟨List.replicate size (0#64, d), size - 1⟩ := by
  unfold Cache.new at h
  by_cases hp : popcountNat size = 1
  · simp [hp] at h
    exact ⟨hp, h.symm⟩
  · simp [hp] at h

theorem WF_new {size : Nat} {d : α} {c : Cache α} (h : Cache.new size d = some c) : WF c := by
  obtain ⟨hp, hc⟩ := new_eq_some h
  obtain ⟨k, hk⟩ := (popcountNat_eq_one_iff size).mp hp
  subst hc
  exact ⟨k, by simp [hk], by simp [hk]⟩

theorem WF.set {c : Cache α} (w : WF c) (i : Nat) (x : BB × α) : WF { c with table := c.table.set i x } := by
  obtain ⟨k, hl, hm⟩ := w
  exact ⟨k, by simpa using hl, hm⟩

theorem WF_add {c c' : Cache α} {h : BB} {v : α} (w : WF c) (e : c.add h v = some c') : WF c' := by
  unfold add at e
  split at e
  · cases e; exact w.set _ _
  · cases e

theorem WF_replaceIf {c c' : Cache α} {h : BB} {v : α} {p : α → Bool} (w : WF c)
    (e : c.replaceIf h v p = some c') : WF c' := by
  unfold replaceIf at e
  split at e
  · cases e
  · split at e
    · cases e; exact w.set _ _
    · cases e; exact w

/-! ### the refinement relation -/

/-- `c` represents `s`: same size (a power of two, mask = size − 1), and every slot of the table holds
what the specification's slot map says, an untouched slot being `(0, default)` -/
def Rel (c : Cache α) (s : Spec.CacheSpec α) : Prop :=
  s.size = c.table.length ∧ WF c ∧
  ∀ i, i < s.size → c.table[i]? = some ((s.slots i).getD (0#64, s.default))

theorem Rel.slot_eq {c : Cache α} {s : Spec.CacheSpec α} (r : Rel c s) (h : BB) :
    c.slot h = s.slotOf h := by
  unfold Spec.CacheSpec.slotOf
  rw [r.1]; exact r.2.1.slot_eq h

theorem Rel.slot_lt {c : Cache α} {s : Spec.CacheSpec α} (r : Rel c s) (h : BB) :
    s.slotOf h < s.size := by
  rw [← r.slot_eq, r.1]; exact r.2.1.slot_lt h

theorem Rel.lookup {c : Cache α} {s : Spec.CacheSpec α} (r : Rel c s) (h : BB) :
    c.table[c.slot h]? = some (s.cur h) := by
  rw [r.slot_eq h]
  exact r.2.2 _ (r.slot_lt h)

theorem Rel_new {size : Nat} {d : α} {c : Cache α} (h : Cache.new size d = some c) :
    Rel c (Spec.CacheSpec.new size d) := by
  have w := WF_new h
  obtain ⟨_, rfl⟩ := new_eq_some h
  refine ⟨by simp [Spec.CacheSpec.new], w, fun i hi => ?_⟩
  simp only [Spec.CacheSpec.new] at hi ⊢
  simp [hi]

theorem Rel.get {c : Cache α} {s : Spec.CacheSpec α} (r : Rel c s) (h : BB) :
    c.get h = some (s.get h) := by
  unfold Cache.get
  rw [r.lookup h]
  rfl

theorem Rel.set {c : Cache α} {s : Spec.CacheSpec α} (r : Rel c s) (h : BB) (v : α) :
    Rel { c with table := c.table.set (c.slot h) (h, v) } (s.add h v) := by
  refine ⟨?_, r.2.1.set _ _, ?_⟩
  · simp only [Spec.CacheSpec.add, List.length_set]; exact r.1
  · intro i hi
    simp only [Spec.CacheSpec.add] at hi ⊢
    rw [List.getElem?_set, r.slot_eq h]
    by_cases hi' : i = s.slotOf h
    · subst hi'
      have : s.slotOf h < c.table.length := by rw [← r.1]; exact hi
      simp [this]
    · have : ¬ s.slotOf h = i := fun e => hi' e.symm
      simp only [this, hi', if_false]
      exact r.2.2 i hi

theorem Rel.add {c : Cache α} {s : Spec.CacheSpec α} (r : Rel c s) (h : BB) (v : α) :
    ∃ c', c.add h v = some c' ∧ Rel c' (s.add h v) := by
  refine ⟨_, ?_, r.set h v⟩
  unfold Cache.add
  rw [if_pos (r.2.1.slot_lt h)]

theorem Rel.replaceIf {c : Cache α} {s : Spec.CacheSpec α} (r : Rel c s) (h : BB) (v : α)
    (p : α → Bool) : ∃ c', c.replaceIf h v p = some c' ∧ Rel c' (s.replaceIf h v p) := by
  unfold Cache.replaceIf Spec.CacheSpec.replaceIf
  rw [r.lookup h]
  by_cases hp : p (s.cur h).2 = true
  · simp only [hp, if_true]
    exact ⟨_, rfl, r.set h v⟩
  · simp only [hp]
    exact ⟨_, rfl, r⟩

end Cache

/-! ### operation sequences -/

inductive Cache.Op (α : Type) where
  | add (h : BB) (v : α)
  | replaceIf (h : BB) (v : α) (p : α → Bool)
  | get (h : BB)

namespace Cache
variable {α : Type}

/-- one operation on the model: new state and the output (`get` only); `none` = undefined behaviour -/
def stepModel (c : Cache α) : Op α → Option (Cache α × Option (Option α))
  | .add h v => (c.add h v).map fun c' => (c', none)
  | .replaceIf h v p => (c.replaceIf h v p).map fun c' => (c', none)
  | .get h => (c.get h).map fun r => (c, some r)

def stepSpec (s : Spec.CacheSpec α) : Op α → Spec.CacheSpec α × Option (Option α)
  | .add h v => (s.add h v, none)
  | .replaceIf h v p => (s.replaceIf h v p, none)
  | .get h => (s, some (s.get h))

/-- final state and the list of `get` results of a run of the model -/
def execModel : Cache α → List (Op α) → Option (Cache α × List (Option α))
  | c, [] => some (c, [])
  | c, op :: ops =>
    match stepModel c op with
    | none => none
    | some (c', out) =>
      match execModel c' ops with
      | none => none
      | some (c'', outs) => some (c'', out.toList ++ outs)

def execSpec : Spec.CacheSpec α → List (Op α) → Spec.CacheSpec α × List (Option α)
  | s, [] => (s, [])
  | s, op :: ops =>
    let r := stepSpec s op
    let r' := execSpec r.1 ops
    (r'.1, r.2.toList ++ r'.2)

def runModel (c : Cache α) (ops : List (Op α)) : Option (List (Option α)) := (execModel c ops).map (·.2)
def runSpec (s : Spec.CacheSpec α) (ops : List (Op α)) : List (Option α) := (execSpec s ops).2

theorem Rel.step {c : Cache α} {s : Spec.CacheSpec α} (r : Rel c s) (op : Op α) :
    ∃ c', stepModel c op = some (c', (stepSpec s op).2) ∧ Rel c' (stepSpec s op).1 := by
  cases op with
  | add h v =>
    obtain ⟨c', e, r'⟩ := r.add h v
    exact ⟨c', by simp [stepModel, stepSpec, e], r'⟩
  | replaceIf h v p =>
    obtain ⟨c', e, r'⟩ := r.replaceIf h v p
    exact ⟨c', by simp [stepModel, stepSpec, e], r'⟩
  | get h =>
    exact ⟨c, by simp [stepModel, stepSpec, r.get h], r⟩

theorem Rel.exec {c : Cache α} {s : Spec.CacheSpec α} (r : Rel c s) (ops : List (Op α)) :
    ∃ c', execModel c ops = some (c', (execSpec s ops).2) ∧ Rel c' (execSpec s ops).1 := by
  induction ops generalizing c s with
  | nil => exact ⟨c, rfl, r⟩
  | cons op ops ih =>
    obtain ⟨c1, e1, r1⟩ := r.step op
    obtain ⟨c2, e2, r2⟩ := ih r1
    refine ⟨c2, ?_, r2⟩
    simp only [execModel, e1, e2, execSpec]

def Reachable (c : Cache α) : Prop :=
  ∃ (size : Nat) (d : α) (c0 : Cache α) (ops : List (Op α)) (outs : List (Option α)),
    Cache.new size d = some c0 ∧ execModel c0 ops = some (c, outs)

theorem Reachable.rel {c : Cache α} (hc : Reachable c) : ∃ s : Spec.CacheSpec α, Rel c s := by
  obtain ⟨size, d, c0, ops, outs, hn, he⟩ := hc
  obtain ⟨c', e, r⟩ := (Rel_new hn).exec ops
  rw [he] at e
  cases e
  exact ⟨_, r⟩

/-! ### untouched slots -/

def Op.hash : Op α → Option BB
  | .add h _ => some h
  | .replaceIf h _ _ => some h
  | .get _ => none

theorem stepSpec_cases (s : Spec.CacheSpec α) (op : Op α) :
    (stepSpec s op).1 = s ∨ ∃ h v, op.hash = some h ∧ (stepSpec s op).1 = s.add h v := by
  cases op with
  | add h v => exact .inr ⟨h, v, rfl, rfl⟩
  | replaceIf h v p =>
    simp only [stepSpec, Spec.CacheSpec.replaceIf]
    split
    · exact .inr ⟨h, v, rfl, rfl⟩
    · exact .inl rfl
  | get h => exact .inl rfl

theorem execSpec_untouched (s : Spec.CacheSpec α) (ops : List (Op α)) (i : Nat)
    (hi : ∀ op ∈ ops, ∀ h, op.hash = some h → h.toNat % s.size ≠ i) :
    (execSpec s ops).1.slots i = s.slots i ∧ (execSpec s ops).1.size = s.size ∧
      (execSpec s ops).1.default = s.default := by
  induction ops generalizing s with
  | nil => exact ⟨rfl, rfl, rfl⟩
  | cons op ops ih =>
    obtain ⟨k1, k2, k3⟩ : (stepSpec s op).1.slots i = s.slots i ∧ (stepSpec s op).1.size = s.size ∧
        (stepSpec s op).1.default = s.default := by
      rcases stepSpec_cases s op with e | ⟨h, v, hh, e⟩ <;> rw [e]
      · exact ⟨rfl, rfl, rfl⟩
      · exact ⟨if_neg (Ne.symm (hi op (by simp) h hh)), rfl, rfl⟩
    have := ih (stepSpec s op).1 fun op' hop' h hh => by
      rw [k2]; exact hi op' (by simp [hop']) h hh
    simp only [execSpec]
    rw [this.1, this.2.1, this.2.2, k1, k2, k3]
    exact ⟨rfl, rfl, rfl⟩

end Cache
end Chess
