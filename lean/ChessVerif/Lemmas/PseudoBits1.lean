import ChessVerif.Lemmas.PinCheck1
import ChessVerif.Lemmas.Core
import ChessVerif.Lemmas.PawnQuiets
/-
Pseudo-legal destination sets of the code (`MoveGen.pseudoLegals`) against the specification
(`attacks`, `pseudoLegal`), part 1: the occupancy bridge between the bitboards of a `Struct` board
and its abstraction, and the five non-pawn piece kinds.
-/
namespace Chess
namespace PseudoBits

/-! ### occupancy bridge -/

theorem abs_empty (b : Board) (z : Sq) : b.abs.empty z = (b.content z).isNone := rfl
theorem abs_colorAt (b : Board) (z : Sq) : b.abs.colorAt z = (b.content z).map (·.2) := rfl

theorem empty_iff_combined {b : Board} (hs : Struct b) (z : Sq) :
    b.abs.empty z = true ↔ b.combined.getLsbD z.val = false := by
  rw [empty_iff, abs_board, hs.content_none_iff]

theorem empty_false_iff_combined {b : Board} (hs : Struct b) (z : Sq) :
    b.abs.empty z = false ↔ b.combined.getLsbD z.val = true := by
  rw [← Bool.not_eq_true, empty_iff_combined hs, Bool.not_eq_false]

theorem occ_bridge {b : Board} (hs : Struct b) (z : Sq) : b.combined.has z = !b.abs.empty z := by
  cases he : b.abs.empty z with
  | true => exact (empty_iff_combined hs z).mp he
  | false => exact (empty_false_iff_combined hs z).mp he

theorem colorAt_iff_cbit {b : Board} (hs : Struct b) (d : Sq) (c : Color) :
    b.abs.colorAt d = some c ↔ (b.colorCombined c).getLsbD d.val = true := by
  rw [colorAt_iff, abs_board]
  constructor
  · rintro ⟨pc, h⟩; exact ((hs.content_some_iff d pc c).mp h).2
  · intro h
    have hcomb : b.combined.getLsbD d.val = true := by
      rw [hs.comb_color, Bool.or_eq_true_iff]
      cases c
      · exact Or.inl h
      · exact Or.inr h
    obtain ⟨p, hp⟩ := (hs.comb_piece d.val).mp hcomb
    exact ⟨p, (hs.content_some_iff d p c).mpr ⟨hp, h⟩⟩

/-- the code's destination mask `!color_combined(c)`: the squares not holding a man of colour `c` -/
theorem mask_iff {b : Board} (hs : Struct b) (d : Sq) (c : Color) :
    (~~~(b.colorCombined c)).getLsbD d.val = true ↔ b.abs.colorAt d ≠ some c := by
  rw [BitVec.getLsbD_not, ne_eq, colorAt_iff_cbit hs]
  have : d.val < 64 := d.isLt
  cases (b.colorCombined c).getLsbD d.val <;> simp [this]

theorem colorAt_other_iff (b : Board) (d : Sq) (c : Color) :
    b.abs.colorAt d = some c.other ↔ (b.abs.empty d = false ∧ b.abs.colorAt d ≠ some c) := by
  rw [abs_colorAt, abs_empty]
  cases b.content d with
  | none => simp
  | some x =>
    rcases x with ⟨pc, c'⟩
    cases c <;> cases c' <;> simp [Color.other]

/-! ### knight, bishop, rook, queen, king: the destination set is `attacks` minus own men -/

theorem piece_bits {T : Tables} (hT : TablesOK T) {b : Board} (hs : Struct b) {src : Sq} {pc : Piece}
    {c : Color} (hpc : pc ≠ .pawn) (hsrc : b.content src = some (pc, c)) (d : Sq) :
    (MoveGen.pseudoLegals T pc src c b.combined (~~~(b.colorCombined c))).getLsbD d.val = true ↔
      (attacks b.abs src d = true ∧ b.abs.colorAt d ≠ some c) := by
  have hw := fun ds => mem_sliderWalk_slides ds b.abs b.combined (occ_bridge hs) src d
  unfold attacks MoveGen.pseudoLegals
  rw [abs_board, hsrc]
  cases pc <;> simp only [BitVec.getLsbD_and, Bool.and_eq_true, mask_iff hs]
  · exact absurd rfl hpc
  · rw [hT.knight, mem_knight]
  · rw [hT.bishopMoves, ← hw bishopDirs]; rfl
  · rw [hT.rookMoves, ← hw rookDirs]; rfl
  · rw [hT.rookMoves, hT.bishopMoves, rookWalk_xor_bishopWalk, ← sliderWalk_allDirs, hw allDirs]
  · rw [hT.king, mem_king_spec]

theorem pseudoLegal_piece {p : Pos} {src : Sq} {pc : Piece} (hp : pc ≠ .pawn) (hk : pc ≠ .king)
    (hsrc : p.board src = some (pc, p.stm)) (d : Sq) (q : Option Piece) :
    pseudoLegal p ⟨src, d, q⟩ = true ↔ (q = none ∧ attacks p src d = true ∧ p.colorAt d ≠ some p.stm) := by
  unfold pseudoLegal
  simp only [hsrc]
  cases pc with
  | pawn => exact absurd rfl hp
  | king => exact absurd rfl hk
  | knight | bishop | rook | queen =>
    simp only [beq_self_eq_true, Bool.true_and, Bool.and_eq_true, bne_iff_ne, ne_eq,
      Option.isNone_iff_eq_none]
    constructor
    · rintro ⟨h1, h2, h3⟩; exact ⟨h2, h3, h1⟩
    · rintro ⟨h1, h2, h3⟩; exact ⟨h3, h1, h2⟩

theorem piece_bits_pseudoLegal {T : Tables} (hT : TablesOK T) {b : Board} (hs : Struct b) {src : Sq}
    {pc : Piece} (hp : pc ≠ .pawn) (hk : pc ≠ .king) (hsrc : b.content src = some (pc, b.stm)) (d : Sq) :
    (MoveGen.pseudoLegals T pc src b.stm b.combined (~~~(b.colorCombined b.stm))).getLsbD d.val = true ↔
      pseudoLegal b.abs ⟨src, d, none⟩ = true := by
  rw [piece_bits hT hs hp hsrc, pseudoLegal_piece hp hk hsrc]
  simp only [true_and, abs_stm]

theorem pseudoLegal_king_step {p : Pos} {src : Sq} (hsrc : p.board src = some (.king, p.stm)) (d : Sq)
    (q : Option Piece) :
    (pseudoLegal p ⟨src, d, q⟩ = true ∧ isCastle p ⟨src, d, q⟩ = false) ↔
      (q = none ∧ attacks p src d = true ∧ p.colorAt d ≠ some p.stm) := by
  unfold pseudoLegal isCastle
  simp only [hsrc, beq_self_eq_true, Bool.true_and, Bool.and_eq_true, bne_iff_ne, ne_eq,
    Option.isNone_iff_eq_none, Bool.or_eq_true, beq_eq_false_iff_ne]
  constructor
  · rintro ⟨⟨h1, h2, h3 | h3⟩, h4⟩
    · exact ⟨h2, h3, h1⟩
    · exfalso
      simp only [beq_iff_eq] at h3
      exact h4 h3.1.2
  · rintro ⟨h1, h2, h3⟩
    refine ⟨⟨h3, h1, Or.inl h2⟩, ?_⟩
    have := (king_attacks_near hsrc h2).1
    omega

theorem king_bits_pseudoLegal {T : Tables} (hT : TablesOK T) {b : Board} (hs : Struct b) {src : Sq}
    (hsrc : b.content src = some (.king, b.stm)) (d : Sq) :
    (MoveGen.pseudoLegals T .king src b.stm b.combined (~~~(b.colorCombined b.stm))).getLsbD d.val = true ↔
      (pseudoLegal b.abs ⟨src, d, none⟩ = true ∧ isCastle b.abs ⟨src, d, none⟩ = false) := by
  rw [piece_bits hT hs (by decide) hsrc, pseudoLegal_king_step hsrc]
  simp only [true_and, abs_stm]

end PseudoBits
end Chess
