import ChessVerif.Model.San
/-!
Lemmas about the text layer model (`ChessVerif/Model/Text.lean`): byte-length / slicing facts for
`Str.len`, `Str.dropBytes`, `Str.takeBytes`, `Str.get`, squares from rank and file, and the square /
coordinate-move printer-parser pair.  The base of the FEN, SAN and totality lemmas, and of `Props/C13.lean`.
-/
namespace Chess

/-! ### characters -/

theorem utf8Size_of_le (c : Char) (h : c.toNat ≤ 127) : c.utf8Size = 1 := by
  unfold Char.utf8Size
  have : c.val ≤ 127 := by
    rw [UInt32.le_iff_toNat_le]; exact h
  simp
  intro h2
  exact absurd this (by simpa using h2)

theorem charFile?_fileChar : ∀ f : Fin 8, charFile? (fileChar f) = some f := by decide
theorem charRank?_rankChar : ∀ r : Fin 8, charRank? (rankChar r) = some r := by decide

theorem ofNat_add_sub {c : Char} {lo : Nat} (h : lo ≤ c.toNat) :
    Char.ofNat (lo + (c.toNat - lo)) = c := by
  rw [Nat.add_sub_cancel' h, Char.ofNat_toNat]

theorem charFile?_eq_some {c : Char} {f : Fin 8} (h : charFile? c = some f) : c = fileChar f := by
  unfold charFile? at h
  split at h
  · cases h; exact (ofNat_add_sub (by assumption : _ ∧ _).1).symm
  · cases h

theorem charRank?_eq_some {c : Char} {r : Fin 8} (h : charRank? c = some r) : c = rankChar r := by
  unfold charRank? at h
  split at h
  · cases h; exact (ofNat_add_sub (by assumption : _ ∧ _).1).symm
  · cases h

theorem fileChar_size : ∀ f : Fin 8, (fileChar f).utf8Size = 1 := by decide
theorem rankChar_size : ∀ r : Fin 8, (rankChar r).utf8Size = 1 := by decide

theorem charFile?_size {c : Char} {f : Fin 8} (h : charFile? c = some f) : c.utf8Size = 1 := by
  rw [charFile?_eq_some h]; exact fileChar_size f
theorem charRank?_size {c : Char} {r : Fin 8} (h : charRank? c = some r) : c.utf8Size = 1 := by
  rw [charRank?_eq_some h]; exact rankChar_size r

theorem fileChar_inj : ∀ f g : Fin 8, fileChar f = fileChar g → f = g := by decide
theorem rankChar_inj : ∀ f g : Fin 8, rankChar f = rankChar g → f = g := by decide

/-! ### squares -/

theorem mkSq_getRank_getFile (s : Sq) : mkSq s.getRank s.getFile = s :=
  Fin.ext (Nat.div_add_mod' s.val 8)
theorem getRank_mkSq (r f : Fin 8) : (mkSq r f).getRank = r := by
  apply Fin.ext
  show (r.val * 8 + f.val) / 8 = r.val
  rw [Nat.mul_comm, Nat.mul_add_div (by decide), Nat.div_eq_of_lt f.isLt, Nat.add_zero]
theorem getFile_mkSq (r f : Fin 8) : (mkSq r f).getFile = f := by
  apply Fin.ext
  show (r.val * 8 + f.val) % 8 = f.val
  rw [Nat.mul_comm, Nat.mul_add_mod, Nat.mod_eq_of_lt f.isLt]

/-- `get_en_passant` rebuilds a square from its file, given that it stands on the fourth rank of the side
that has just moved -/
theorem Builder.getEnPassant_of_fourthRank {bd : Builder} {e : Option Sq} (hf : bd.epFile = e.map Sq.getFile)
    (hr : ∀ q, e = some q → q.getRank = bd.stm.other.fourthRank) : bd.getEnPassant = e := by
  unfold Builder.getEnPassant
  rw [hf]
  cases e with
  | none => rfl
  | some q => rw [Option.map_some, Option.map_some, ← hr q rfl, mkSq_getRank_getFile]

/-! ### `Str` -/

namespace Str

@[simp] theorem len_nil : len [] = 0 := rfl
@[simp] theorem len_cons (c : Char) (s : List Char) : len (c :: s) = c.utf8Size + len s := by
  simp [len]
theorem len_append (s t : List Char) : len (s ++ t) = len s + len t := by
  simp [len]

theorem len_eq_zero {s : List Char} (h : len s = 0) : s = [] := by
  cases s with
  | nil => rfl
  | cons c cs =>
    have := Char.utf8Size_pos c
    simp at h; omega

theorem len_eq_one {s : List Char} (h : len s = 1) : ∃ c, s = [c] := by
  cases s with
  | nil => simp at h
  | cons c cs =>
    have := Char.utf8Size_pos c
    simp at h
    exact ⟨c, by rw [len_eq_zero (s := cs) (by omega)]⟩

theorem length_le_len (s : List Char) : s.length ≤ len s := by
  induction s with
  | nil => simp
  | cons c cs ih =>
    have := Char.utf8Size_pos c
    simp; omega

theorem dropBytes_zero (s : List Char) : dropBytes s 0 = some s := by
  unfold dropBytes; rfl

theorem dropBytes_nil (n : Nat) : dropBytes [] n = if n = 0 then some [] else none := by
  cases n <;> simp [dropBytes]

theorem dropBytes_cons (c : Char) (cs : List Char) (n : Nat) :
    dropBytes (c :: cs) n =
      if n = 0 then some (c :: cs)
      else if c.utf8Size ≤ n then dropBytes cs (n - c.utf8Size) else none := by
  cases n <;> simp [dropBytes]

theorem takeBytes_zero (s : List Char) : takeBytes s 0 = some [] := by
  unfold takeBytes; rfl

theorem takeBytes_nil (n : Nat) : takeBytes [] n = if n = 0 then some [] else none := by
  cases n <;> simp [takeBytes]

theorem takeBytes_cons (c : Char) (cs : List Char) (n : Nat) :
    takeBytes (c :: cs) n =
      if n = 0 then some []
      else if c.utf8Size ≤ n then (takeBytes cs (n - c.utf8Size)).map (c :: ·) else none := by
  cases n <;> simp [takeBytes]

/-- a successful `takeBytes` returns a prefix of exactly `n` bytes -/
theorem takeBytes_spec : ∀ (s : List Char) (n : Nat) (t : List Char),
    takeBytes s n = some t → len t = n ∧ ∃ r, s = t ++ r
  | [], n, t, h => by
    rw [takeBytes_nil] at h
    split at h
    · cases h; simp [*]
    · cases h
  | c :: cs, n, t, h => by
    rw [takeBytes_cons] at h
    split at h
    · cases h; simp [*]
    · split at h
      · obtain ⟨t', h1, rfl⟩ := Option.map_eq_some_iff.1 h
        obtain ⟨hl, r, hr⟩ := takeBytes_spec cs _ t' h1
        exact ⟨by simp; omega, r, by simp [hr]⟩
      · cases h

/-- a successful `dropBytes` removes a prefix of exactly `n` bytes -/
theorem dropBytes_spec : ∀ (s : List Char) (n : Nat) (r : List Char),
    dropBytes s n = some r → ∃ t, s = t ++ r ∧ len t = n
  | [], n, r, h => by
    rw [dropBytes_nil] at h
    split at h
    · cases h; exact ⟨[], by simp [*]⟩
    · cases h
  | c :: cs, n, r, h => by
    rw [dropBytes_cons] at h
    split at h
    · cases h; exact ⟨[], by simp [*]⟩
    · split at h
      · obtain ⟨t, ht, hl⟩ := dropBytes_spec cs _ r h
        exact ⟨c :: t, by simp [ht], by simp; omega⟩
      · cases h

/-- dropping the byte length of a prefix (plus `a`) -/
theorem dropBytes_append (t r : List Char) (a : Nat) :
    dropBytes (t ++ r) (len t + a) = dropBytes r a := by
  induction t with
  | nil => simp
  | cons c cs ih =>
    have := Char.utf8Size_pos c
    rw [List.cons_append, dropBytes_cons, len_cons, if_neg (by omega), if_pos (by omega), ← ih]
    congr 1; omega

theorem takeBytes_append (t r : List Char) : takeBytes (t ++ r) (len t) = some t := by
  induction t with
  | nil => exact takeBytes_zero r
  | cons c cs ih =>
    have := Char.utf8Size_pos c
    rw [List.cons_append, takeBytes_cons, len_cons, if_neg (by omega), if_pos (by omega),
      Nat.add_sub_cancel_left, ih]
    rfl

theorem get_append (t r : List Char) (a b : Nat) :
    get (t ++ r) (len t + a) (len t + b) = get r a b := by
  unfold get
  rw [dropBytes_append, Nat.add_sub_add_left]
  simp only [Nat.add_le_add_iff_left]

theorem get_zero (s : List Char) (b : Nat) : get s 0 b = takeBytes s b := by
  simp [get, dropBytes_zero]

end Str

/-! ### `parseSquare` -/

theorem len_showSquare (q : Sq) : Str.len (showSquare q) = 2 := by
  simp [showSquare, fileChar_size, rankChar_size]

theorem parseSquare_showSquare (s : Sq) : parseSquare (showSquare s) = .ok s := by
  unfold parseSquare
  rw [len_showSquare, if_neg (Nat.lt_irrefl 2)]
  simp only [showSquare, charFile?_fileChar, charRank?_rankChar, mkSq_getRank_getFile]

/-- `Square::from_str` rejects, or accepts a text that begins with the text of the square returned:
`ch[0]` and `ch[1]` are read only after the length test, which a lone file letter fails -/
theorem parseSquare_cases : ∀ s : List Char,
    parseSquare s = .err ∨ ∃ q rest, s = showSquare q ++ rest ∧ parseSquare s = .ok q
  | [] => .inl rfl
  | [c0] => by
    cases hf : charFile? c0 with
    | none => simp [parseSquare, hf]
    | some f => simp [parseSquare, charFile?_size hf]
  | c0 :: c1 :: rest => by
    cases hf : charFile? c0 with
    | none => simp [parseSquare, hf]
    | some f =>
      cases hr : charRank? c1 with
      | none => simp [parseSquare, hf, hr]
      | some r =>
        refine .inr ⟨mkSq r f, rest, ?_, ?_⟩
        · rw [showSquare, getRank_mkSq, getFile_mkSq, charFile?_eq_some hf, charRank?_eq_some hr]
          rfl
        · have := Char.utf8Size_pos c0
          have := Char.utf8Size_pos c1
          simp only [parseSquare, Str.len_cons, hf, hr]
          rw [if_neg (by omega)]

theorem parseSquare_ne_panic (s : List Char) : parseSquare s ≠ .panic := by
  rcases parseSquare_cases s with h | ⟨_, _, _, h⟩ <;> rw [h] <;> nofun

theorem parseSquare_ok {s : List Char} {q : Sq} (h : parseSquare s = .ok q) :
    ∃ rest, s = showSquare q ++ rest := by
  rcases parseSquare_cases s with h' | ⟨q', rest, hs, h'⟩ <;> rw [h'] at h
  · cases h
  · cases h; exact ⟨rest, hs⟩

/-- a two-byte slice accepted by `parseSquare` is exactly the square's text -/
theorem parseSquare_ok_of_len {a : List Char} {q : Sq} (h : parseSquare a = .ok q)
    (hl : Str.len a = 2) : a = showSquare q := by
  obtain ⟨rest, rfl⟩ := parseSquare_ok h
  rw [Str.len_append, len_showSquare] at hl
  rw [Str.len_eq_zero (s := rest) (by omega), List.append_nil]

/-! ### `parseMove` -/

theorem get_src (q : Sq) (r : List Char) : Str.get (showSquare q ++ r) 0 2 = some (showSquare q) := by
  rw [Str.get_zero, ← len_showSquare q, Str.takeBytes_append]

theorem get_dst (p q : Sq) (r : List Char) :
    Str.get (showSquare p ++ (showSquare q ++ r)) 2 4 = some (showSquare q) := by
  have := Str.get_append (showSquare p) (showSquare q ++ r) 0 2
  rw [len_showSquare] at this
  rw [this, get_src]

/-- decomposition of the two slices taken by `parseMove` -/
theorem parseMove_slices {s a b : List Char} {src dst : Sq}
    (ha : Str.get s 0 2 = some a) (hsrc : parseSquare a = .ok src)
    (hb : Str.get s 2 4 = some b) (hdst : parseSquare b = .ok dst) :
    ∃ r, s = showSquare src ++ (showSquare dst ++ r) := by
  rw [Str.get_zero] at ha
  obtain ⟨hla, r1, rfl⟩ := Str.takeBytes_spec _ _ _ ha
  cases parseSquare_ok_of_len hsrc hla
  have := Str.get_append (showSquare src) r1 0 2
  rw [len_showSquare] at this
  rw [this, Str.get_zero] at hb
  obtain ⟨hlb, r2, rfl⟩ := Str.takeBytes_spec _ _ _ hb
  cases parseSquare_ok_of_len hdst hlb
  exact ⟨r2, rfl⟩

/-- `ChessMove::from_str` rejects, or accepts a text that begins with the text of the move returned -/
theorem parseMove_cases (s : List Char) :
    parseMove s = .err ∨ ∃ m r, s = showMove m ++ r ∧ parseMove s = .ok m := by
  unfold parseMove
  cases ha : Str.get s 0 2 with
  | none => exact .inl rfl
  | some a =>
    dsimp only
    rcases parseSquare_cases a with h | ⟨src, _, _, hsrc⟩
    · rw [h]; exact .inl rfl
    rw [hsrc]
    cases hb : Str.get s 2 4 with
    | none => exact .inl rfl
    | some b =>
      dsimp only
      rcases parseSquare_cases b with h | ⟨dst, _, _, hdst⟩
      · rw [h]; exact .inl rfl
      rw [hdst]
      obtain ⟨r, hr⟩ := parseMove_slices ha hsrc hb hdst
      dsimp only
      split
      · rename_i h5
        rw [hr, Str.len_append, Str.len_append, len_showSquare, len_showSquare] at h5
        obtain ⟨c, rfl⟩ := Str.len_eq_one (s := r) (by omega)
        have hlast : s.getLast? = some c := by
          rw [hr]; simp [showSquare]
        rw [hlast]
        split
        case h_1 | h_6 => exact .inl rfl
        all_goals
          rename_i hq; cases hq
          exact .inr ⟨_, [], by simpa [showMove, pieceChar] using hr, rfl⟩
      · exact .inr ⟨_, r, by simpa [showMove] using hr, rfl⟩

end Chess
