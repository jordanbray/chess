import ChessVerif.Proofs.SliderLemmas
import ChessVerif.CodeTables
/-!
The slider tables generated from /repo (magic look-up of the default build, `pext`/`pdep` look-up of
the `+bmi2` build) are checked by kernel evaluation, one evaluation per table, against the data that
is regenerated on every run; `Raw.magicOK_sound` / `Raw.bmiOK_sound` lift the result to all 64 squares
and all 2^64 occupancies (C15).
-/
namespace Chess

theorem rook_magic_ok : (allSq.all fun s => codeRaw.magicOK false s) = true := by decide +kernel
theorem bishop_magic_ok : (allSq.all fun s => codeRaw.magicOK true s) = true := by decide +kernel
theorem rook_bmi_ok : Gen.haveBmi = false ∨ (allSq.all fun s => codeRaw.bmiOK false s) = true := by
  decide +kernel
theorem bishop_bmi_ok : Gen.haveBmi = false ∨ (allSq.all fun s => codeRaw.bmiOK true s) = true := by
  decide +kernel

theorem magicOK_all (bishop : Bool) (s : Sq) : codeRaw.magicOK bishop s = true := by
  cases bishop
  · exact List.all_eq_true.mp rook_magic_ok s (List.mem_finRange s)
  · exact List.all_eq_true.mp bishop_magic_ok s (List.mem_finRange s)

theorem bmiOK_all (hb : Gen.haveBmi = true) (bishop : Bool) (s : Sq) : codeRaw.bmiOK bishop s = true := by
  cases bishop
  · exact List.all_eq_true.mp (rook_bmi_ok.resolve_left (by simp [hb])) s (List.mem_finRange s)
  · exact List.all_eq_true.mp (bishop_bmi_ok.resolve_left (by simp [hb])) s (List.mem_finRange s)

/-- the obligation in its direct form (every subset of the mask walked from scratch), for one square -/
theorem SliderProofs.rook_ok_00 : codeRaw.sliderOK false ⟨0, by decide⟩ = true :=
  codeRaw.sliderOK_of_magicOK false _ (magicOK_all false _)

/-- C15, default build: the magic look-ups equal ray walking for every square and every occupancy -/
theorem rookMoves_eq_walk (s : Sq) (occ : BB) : codeTables.rookMoves s occ = Geom.rookWalk s occ :=
  codeRaw.magicOK_sound false s (magicOK_all false s) occ

theorem bishopMoves_eq_walk (s : Sq) (occ : BB) : codeTables.bishopMoves s occ = Geom.bishopWalk s occ :=
  codeRaw.magicOK_sound true s (magicOK_all true s) occ

/-- C15, `+bmi2` build: the pext/pdep look-ups equal ray walking … -/
theorem rookMovesBmi_eq_walk (hb : Gen.haveBmi = true) (s : Sq) (occ : BB) :
    codeRaw.bmiLookup false s occ = Geom.rookWalk s occ :=
  codeRaw.bmiOK_sound false s (bmiOK_all hb false s) occ

theorem bishopMovesBmi_eq_walk (hb : Gen.haveBmi = true) (s : Sq) (occ : BB) :
    codeRaw.bmiLookup true s occ = Geom.bishopWalk s occ :=
  codeRaw.bmiOK_sound true s (bmiOK_all hb true s) occ

/-- … and therefore the two build configurations agree with each other -/
theorem bmi_agrees_with_magic (hb : Gen.haveBmi = true) (s : Sq) (occ : BB) :
    codeRaw.bmiLookup false s occ = codeTables.rookMoves s occ ∧
    codeRaw.bmiLookup true s occ = codeTables.bishopMoves s occ := by
  rw [rookMovesBmi_eq_walk hb, bishopMovesBmi_eq_walk hb, rookMoves_eq_walk, bishopMoves_eq_walk]
  exact ⟨rfl, rfl⟩

end Chess
