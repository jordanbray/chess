import ChessVerif.Geom
import ChessVerif.Lemmas.BitBoard
/-
The kernel-checked obligation about one square's slice of the code's slider tables, and its lift to
every one of the 2^64 occupancies.

A look-up reads the occupancy only under its mask, so it is enough to visit every subset of the mask.
The subsets are visited ray by ray, each ray by its first blocker: the squares before the blocker are
empty, the squares behind it arbitrary, and the walk along that ray is the same for all of them.  The
expected answer is thus accumulated along the way instead of being walked again for every subset, and
the visit itself shows that the walk depends on the masked occupancy only.
-/
namespace Chess

/-! ### the obligation, stated directly -/

def allSubsets : List Sq → BB → (BB → Bool) → Bool
  | [], acc, p => p acc
  | s :: ss, acc, p => allSubsets ss acc p && allSubsets ss (acc ||| BB.ofSq s) p

theorem allSubsets_of_forall (p : BB → Bool) (h : ∀ q, p q = true) :
    ∀ (l : List Sq) (acc : BB), allSubsets l acc p = true
  | [], acc => h acc
  | _ :: ss, acc => by rw [allSubsets, allSubsets_of_forall p h ss, allSubsets_of_forall p h ss]; rfl

def membersOf (b : BB) : List Sq := allSq.filter fun s => b.getLsbD s.val

/-- One (slider, square) of the magic tables is right: the mask covers the squares whose occupancy
matters, and for every subset of the mask the look-up equals the walk.  `Raw.magicOK` below checks
the same with far less work; this form is the one to read. -/
def Raw.sliderOK (r : Raw) (bishop : Bool) (s : Sq) : Bool :=
  let ds := if bishop then bishopDirs else rookDirs
  let mask := word r.magicMasks ((if bishop then 64 else 0) + s.val)
  (Geom.relevant ds s).all (fun t => mask.has t) &&
  allSubsets (membersOf mask) 0#64 (fun q => r.magicLookup bishop s q == Geom.sliderWalk ds s q)

/-! ### visiting the occupancies of a set of rays

A square enters the visit as a pair of `Nat`s: what it adds to the running occupancy word and what it
adds to the running answer word.  (For the magic tables both are its bit; for the BMI2 tables they are
its bit in the `pext`-compressed index and in the 16-bit table entry.)  The functions are written with
`Nat.lor` and continuation passing because that is what the kernel evaluates fastest. -/

/-- `k` on `o` joined with every subset of the occupancy bits of `cs` -/
def subsetsN : List (Nat × Nat) → Nat → (Nat → Bool) → Bool
  | [], o, k => k o
  | c :: cs, o, k => subsetsN cs o k && subsetsN cs (Nat.lor o c.1) k

/-- One ray: `cs` are its squares whose occupancy matters (all but the last), nearest first, `last`
the answer bit of its last square.  Either the nearest square is occupied (then the walk ends there and
the rest of `cs` is arbitrary) or it is empty and the walk goes on. -/
def rayCases : List (Nat × Nat) → Nat → Nat → Nat → (Nat → Nat → Bool) → Bool
  | [], last, o, a, k => k o (Nat.lor a last)
  | c :: cs, last, o, a, k =>
    subsetsN cs (Nat.lor o c.1) (fun o' => k o' (Nat.lor a c.2)) && rayCases cs last o (Nat.lor a c.2) k

def raysCases : List (List (Nat × Nat) × Nat) → Nat → Nat → (Nat → Nat → Bool) → Bool
  | [], o, a, k => k o a
  | r :: rs, o, a, k => rayCases r.1 r.2 o a fun o' a' => raysCases rs o' a' k

/-- a ray as `rayCases` takes it -/
def encodeRay (cell : Sq → Nat × Nat) (r : List Sq) : List (Nat × Nat) × Nat :=
  (r.dropLast.map cell, (r.getLast?.map fun t => (cell t).2).getD 0)

section Sound
/- `Ro o O`: the running occupancy word `o` stands for the occupancy `O`; `Ra a A`: the running answer
word `a` stands for the attack set `A`.  Adding a square's pair to the words adds the square to the sets. -/
variable {cell : Sq → Nat × Nat} {Ro Ra : Nat → BB → Prop}

theorem subsetsN_sound {k : Nat → Bool} {K : BB → Prop} (q : BB) (hk : ∀ o O, Ro o O → k o = true → K O) :
    ∀ (ts : List Sq) (o : Nat) (O : BB),
      (∀ t ∈ ts, ∀ x X, Ro x X → Ro (Nat.lor x (cell t).1) (X ||| BB.ofSq t)) →
      Ro o O → subsetsN (ts.map cell) o k = true → K (O ||| (q &&& BB.ofList ts))
  | [], o, O, _, ho, h => by
    have : O ||| (q &&& BB.ofList []) = O := by simp [BB.ofList]
    rw [this]; exact hk o O ho h
  | t :: ts, o, O, hs, ho, h => by
    simp only [List.map_cons, subsetsN, Bool.and_eq_true] at h
    have hs' := fun u hu => hs u (List.mem_cons_of_mem _ hu)
    rw [BB.and_ofList_cons]
    cases q.has t with
    | false => simpa using subsetsN_sound q hk ts o O hs' ho h.1
    | true =>
      simpa [BitVec.or_assoc] using
        subsetsN_sound q hk ts _ _ hs' (hs t (List.mem_cons_self ..) o O ho) h.2

theorem rayCases_sound {k : Nat → Nat → Bool} {K : BB → BB → Prop} (q : BB)
    (hk : ∀ o O a A, Ro o O → Ra a A → k o a = true → K O A)
    (l : List Sq) (last : Nat) (hlast : ∀ x X, Ra x X → Ra (Nat.lor x last) (X ||| Geom.walkL l q)) :
    ∀ (ts : List Sq) (o : Nat) (O : BB) (a : Nat) (A : BB),
      (∀ t ∈ ts, ∀ x X, Ro x X → Ro (Nat.lor x (cell t).1) (X ||| BB.ofSq t)) →
      (∀ t ∈ ts, ∀ x X, Ra x X → Ra (Nat.lor x (cell t).2) (X ||| BB.ofSq t)) →
      Ro o O → Ra a A → rayCases (ts.map cell) last o a k = true →
      K (O ||| (q &&& BB.ofList ts)) (A ||| Geom.walkL (ts ++ l) q)
  | [], o, O, a, A, _, _, ho, ha, h => by
    have : O ||| (q &&& BB.ofList []) = O := by simp [BB.ofList]
    rw [this]; exact hk _ _ _ _ ho (hlast a A ha) h
  | t :: ts, o, O, a, A, hso, hsa, ho, ha, h => by
    simp only [List.map_cons, rayCases, Bool.and_eq_true] at h
    have ha' := hsa t (List.mem_cons_self ..) a A ha
    rw [BB.and_ofList_cons, List.cons_append, Geom.walkL]
    cases hq : q.has t with
    | true =>
      have := subsetsN_sound (K := fun O' => K O' (A ||| BB.ofSq t)) q
        (fun o' O' ho' hk' => hk o' O' _ _ ho' ha' hk') ts _ _
        (fun u hu => hso u (List.mem_cons_of_mem _ hu)) (hso t (List.mem_cons_self ..) o O ho) h.1
      simpa [BitVec.or_assoc] using this
    | false =>
      have := rayCases_sound q hk l last hlast ts o O _ _ (fun u hu => hso u (List.mem_cons_of_mem _ hu))
        (fun u hu => hsa u (List.mem_cons_of_mem _ hu)) ho ha' h.2
      simpa [BitVec.or_assoc] using this

theorem raysCases_sound {k : Nat → Nat → Bool} {K : BB → BB → Prop} (q : BB)
    (hk : ∀ o O a A, Ro o O → Ra a A → k o a = true → K O A) :
    ∀ (rs : List (List Sq)) (o : Nat) (O : BB) (a : Nat) (A : BB),
      (∀ r ∈ rs, ∀ t ∈ r.dropLast, ∀ x X, Ro x X → Ro (Nat.lor x (cell t).1) (X ||| BB.ofSq t)) →
      (∀ r ∈ rs, ∀ t ∈ r, ∀ x X, Ra x X → Ra (Nat.lor x (cell t).2) (X ||| BB.ofSq t)) →
      Ro o O → Ra a A → raysCases (rs.map (encodeRay cell)) o a k = true →
      K (O ||| (q &&& BB.ofList (rs.flatMap List.dropLast))) (rs.foldl (fun A r => A ||| Geom.walkL r q) A)
  | [], o, O, a, A, _, _, ho, ha, h => by
    have : O ||| (q &&& BB.ofList (([] : List (List Sq)).flatMap List.dropLast)) = O := by simp [BB.ofList]
    rw [this]; exact hk _ _ _ _ ho ha h
  | r :: rs, o, O, a, A, hso, hsa, ho, ha, h => by
    simp only [List.map_cons, raysCases, encodeRay] at h
    have hso' := fun r' hr' => hso r' (List.mem_cons_of_mem _ hr')
    have hsa' := fun r' hr' => hsa r' (List.mem_cons_of_mem _ hr')
    rw [List.flatMap_cons, BB.ofList_append, List.foldl_cons]
    have key : K (O ||| (q &&& BB.ofList r.dropLast) ||| (q &&& BB.ofList (rs.flatMap List.dropLast)))
        (rs.foldl (fun A r => A ||| Geom.walkL r q) (A ||| Geom.walkL r q)) := by
      cases hr : r.getLast? with
      | none =>
        have hnil : r = [] := List.getLast?_eq_none_iff.mp hr
        subst hnil
        have ha0 : Nat.lor a 0 = a := Nat.or_zero a
        simp only [List.dropLast_nil, List.map_nil, List.getLast?_nil, Option.map_none, Option.getD_none,
          rayCases, ha0] at h
        simpa [BB.ofList, Geom.walkL] using raysCases_sound q hk rs o O a A hso' hsa' ho ha h
      | some t =>
        obtain ⟨ts, rfl⟩ := List.getLast?_eq_some_iff.mp hr
        rw [hr, List.dropLast_concat] at h
        rw [List.dropLast_concat]
        have htr : t ∈ ts ++ [t] := by simp
        have := rayCases_sound (K := fun O' A' =>
            K (O' ||| (q &&& BB.ofList (rs.flatMap List.dropLast))) (rs.foldl (fun A r => A ||| Geom.walkL r q) A'))
          q (fun o' O' a' A' ho' ha' hk' => raysCases_sound q hk rs o' O' a' A' hso' hsa' ho' ha' hk')
          [t] (cell t).2 (fun x X hx => by
            have := hsa (ts ++ [t]) (List.mem_cons_self ..) t htr x X hx
            simpa [Geom.walkL] using this)
          ts o O a A (by simpa using hso (ts ++ [t]) (List.mem_cons_self ..))
          (fun u hu => hsa (ts ++ [t]) (List.mem_cons_self ..) u (List.mem_append_left _ hu)) ho ha h
        exact this
    rw [BitVec.and_or_distrib_left, ← BitVec.or_assoc]; exact key

end Sound


namespace Raw

/-! ### the magic tables -/

/-- `magicLookup` on words, compared with the expected word `a`.  Spelt with the `Nat` functions
themselves: the kernel evaluates these on literals without unfolding any instance. -/
def magicLeaf (magic mask shift slice rays o a : Nat) : Bool :=
  Nat.beq (Nat.land (Nat.mod (Nat.shiftRight slice (Nat.mul 64 (Nat.shiftRight
    (Nat.mod (Nat.mul magic (Nat.land o mask)) 18446744073709551616) shift))) 18446744073709551616) rays) a

/-- what the kernel checks for one (slider, square) of the magic tables: the mask is exactly the set of
relevant squares, and every subset of it is looked up correctly -/
def magicOK (r : Raw) (bishop : Bool) (s : Sq) : Bool :=
  let ds := if bishop then bishopDirs else rookDirs
  let i := (if bishop then 64 else 0) + s.val
  word r.magicMasks i == BB.ofList (Geom.relevant ds s) &&
  raysCases ((ds.map (Geom.ray s)).map (encodeRay fun t => (2 ^ t.val, 2 ^ t.val))) 0 0
    (magicLeaf (word r.magicNumbers i).toNat (word r.magicMasks i).toNat (word r.magicShifts i).toNat
      ((if bishop then r.bishopSlices else r.rookSlices).getD s.val 0) (word r.rays i).toNat)

theorem magicLookup_mask (r : Raw) (bishop : Bool) (s : Sq) (occ : BB) :
    r.magicLookup bishop s occ =
      r.magicLookup bishop s (occ &&& word r.magicMasks ((if bishop then 64 else 0) + s.val)) := by
  unfold Raw.magicLookup
  simp only [BitVec.and_assoc, BitVec.and_self]

theorem toNat_or_ofSq {x : Nat} {X : BB} (t : Sq) (h : X.toNat = x) :
    (X ||| BB.ofSq t).toNat = Nat.lor x (2 ^ t.val) := by
  rw [BitVec.toNat_or, BB.toNat_ofSq, h]; rfl

theorem relevant_eq (ds : List Dir) (s : Sq) :
    (ds.map (Geom.ray s)).flatMap List.dropLast = Geom.relevant ds s := by
  unfold Geom.relevant; rw [List.flatMap_map]

theorem sliderWalk_eq (ds : List Dir) (s : Sq) (occ : BB) :
    (ds.map (Geom.ray s)).foldl (fun A r => A ||| Geom.walkL r occ) 0#64 = Geom.sliderWalk ds s occ := by
  unfold Geom.sliderWalk; rw [List.foldl_map]

theorem magicOK_sound (r : Raw) (bishop : Bool) (s : Sq) (h : r.magicOK bishop s = true) (occ : BB) :
    r.magicLookup bishop s occ = Geom.sliderWalk (if bishop then bishopDirs else rookDirs) s occ := by
  simp only [magicOK, Bool.and_eq_true, beq_iff_eq] at h
  have := raysCases_sound (Ro := fun o O => O.toNat = o) (Ra := fun a A => A.toNat = a)
    (K := fun O A => r.magicLookup bishop s O = A) occ
    (fun o O a A ho ha hk => by
      apply BitVec.eq_of_toNat_eq
      rw [ha, ← Nat.eq_of_beq_eq_true hk, ← ho]
      simp only [magicLookup, word, BitVec.toNat_and, BitVec.toNat_ofNat, BitVec.toNat_mul,
        BitVec.toNat_ushiftRight]
      rfl)
    _ 0 0#64 0 0#64 (fun _ _ t _ x X => toNat_or_ofSq t) (fun _ _ t _ x X => toNat_or_ofSq t) rfl rfl h.2
  rw [relevant_eq, sliderWalk_eq, BitVec.zero_or, ← h.1, ← magicLookup_mask] at this
  exact this


theorem sliderOK_of_magicOK (r : Raw) (bishop : Bool) (s : Sq) (h : r.magicOK bishop s = true) :
    r.sliderOK bishop s = true := by
  have hm := h
  simp only [magicOK, Bool.and_eq_true, beq_iff_eq] at hm
  simp only [sliderOK, Bool.and_eq_true, List.all_eq_true]
  exact ⟨fun t ht => hm.1 ▸ BB.has_ofList ht,
    allSubsets_of_forall _ (fun q => beq_iff_eq.mpr (magicOK_sound r bishop s h q)) _ _⟩

end Raw

/-! ### the BMI2 tables

`pext` and `pdep` are both "bit `p.1` of the argument goes to bit `p.2` of the result" over a list of
pairs whose first components are distinct; such a map commutes with `|||` and sends a single bit to a
single bit.  So the `pext` image of an occupancy and the `pdep` pre-image of an attack set can be built
up square by square, like the sets themselves. -/

def bitsOf (mask : BB) : List Nat := (List.range 64).filter fun i => mask.getLsbD i

def scatter (x : BB) (l : List (Nat × Nat)) : BB :=
  l.foldl (fun acc p => if x.getLsbD p.1 then acc ||| (1#64 <<< p.2) else acc) 0#64

theorem pext_eq_scatter (x mask : BB) : pext x mask = scatter x (bitsOf mask).zipIdx := rfl

theorem pdep_eq_scatter (x mask : BB) : pdep x mask = scatter x ((bitsOf mask).zipIdx.map Prod.swap) := by
  unfold pdep scatter; rw [List.foldl_map]; rfl

theorem scatter_cons (x : BB) (p : Nat × Nat) (l : List (Nat × Nat)) :
    scatter x (p :: l) = (if x.getLsbD p.1 then 1#64 <<< p.2 else 0#64) ||| scatter x l := by
  have e : ∀ (l : List (Nat × Nat)) (acc : BB),
      l.foldl (fun acc p => if x.getLsbD p.1 then acc ||| (1#64 <<< p.2) else acc) acc =
      l.foldl (fun acc (p : Nat × Nat) => acc ||| (if x.getLsbD p.1 then 1#64 <<< p.2 else 0#64)) acc := by
    intro l acc; congr; funext acc p; split <;> simp
  unfold scatter
  rw [e, e, List.foldl_cons, BB.foldl_or, BitVec.zero_or]

theorem scatter_or (x y : BB) (l : List (Nat × Nat)) : scatter (x ||| y) l = scatter x l ||| scatter y l := by
  induction l with
  | nil => simp [scatter]
  | cons p l ih =>
    simp only [scatter_cons, ih, BitVec.getLsbD_or]
    cases x.getLsbD p.1 <;> cases y.getLsbD p.1 <;> simp <;> ac_rfl

theorem scatter_eq_zero (x : BB) (l : List (Nat × Nat)) (h : ∀ p ∈ l, x.getLsbD p.1 = false) :
    scatter x l = 0#64 := by
  induction l with
  | nil => rfl
  | cons p l ih =>
    rw [scatter_cons, h p (List.mem_cons_self ..), ih fun p hp => h p (List.mem_cons_of_mem _ hp)]; simp

theorem scatter_zero (l : List (Nat × Nat)) : scatter 0#64 l = 0#64 := scatter_eq_zero _ _ (by simp)

theorem scatter_congr (x y : BB) (l : List (Nat × Nat)) (h : ∀ p ∈ l, x.getLsbD p.1 = y.getLsbD p.1) :
    scatter x l = scatter y l := by
  induction l with
  | nil => rfl
  | cons p l ih =>
    rw [scatter_cons, scatter_cons, h p (List.mem_cons_self ..), ih fun p hp => h p (List.mem_cons_of_mem _ hp)]

theorem scatter_bit (i j : Nat) (hi : i < 64) (l : List (Nat × Nat)) (hl : (l.map Prod.fst).Nodup)
    (hij : (i, j) ∈ l) : scatter (1#64 <<< i) l = 1#64 <<< j := by
  have hb : ∀ n, (1#64 <<< i).getLsbD n = decide (n = i) := BB.getLsbD_ofSq ⟨i, hi⟩
  induction l with
  | nil => cases hij
  | cons p l ih =>
    rw [List.map_cons, List.nodup_cons] at hl
    rw [scatter_cons, hb]
    rcases List.mem_cons.mp hij with rfl | hij'
    · rw [scatter_eq_zero]
      · simp
      · intro p hp
        rw [hb, decide_eq_false_iff_not]
        intro hpi
        exact hl.1 (List.mem_map.mpr ⟨p, hp, hpi⟩)
    · have : p.1 ≠ i := fun hpi => hl.1 (List.mem_map.mpr ⟨(i, j), hij', hpi.symm⟩)
      simp [this, ih hl.2 hij']

theorem bitsOf_nodup (mask : BB) : (bitsOf mask).Nodup := List.nodup_range.filter _

theorem mem_zipIdx_idxOf {l : List Nat} {i : Nat} (h : i ∈ l) : (i, l.idxOf i) ∈ l.zipIdx := by
  rw [List.mem_zipIdx_iff_getElem?, List.getElem?_eq_getElem (List.idxOf_lt_length_of_mem h), List.getElem_idxOf]

theorem pext_mask (x mask : BB) : pext (x &&& mask) mask = pext x mask := by
  rw [pext_eq_scatter, pext_eq_scatter]
  apply scatter_congr
  intro p hp
  have : p.1 ∈ bitsOf mask := List.mem_of_getElem? (List.mem_zipIdx_iff_getElem?.mp hp)
  simp [(List.mem_filter.mp this).2]

theorem idxOf_bitsOf_lt {mask : BB} {t : Sq} (h : mask.has t = true) :
    t.val ∈ bitsOf mask ∧ (bitsOf mask).idxOf t.val < 64 := by
  have hm : t.val ∈ bitsOf mask := List.mem_filter.mpr ⟨List.mem_range.mpr t.isLt, h⟩
  have h1 := List.idxOf_lt_length_of_mem hm
  have h2 : (bitsOf mask).length ≤ (List.range 64).length := List.length_filter_le ..
  exact ⟨hm, by simp at h2; omega⟩

/-- the bit that square `t` of `mask` has after compression by `mask`: its rank among the mask's bits -/
def rankBit (mask : BB) (t : Sq) : Nat := 2 ^ (bitsOf mask).idxOf t.val

theorem pext_step {mask X : BB} {x : Nat} (t : Sq) (h : mask.has t = true) (hx : (pext X mask).toNat = x) :
    (pext (X ||| BB.ofSq t) mask).toNat = Nat.lor x (rankBit mask t) := by
  obtain ⟨hm, hlt⟩ := idxOf_bitsOf_lt h
  have := scatter_bit t.val _ t.isLt _ (by rw [List.zipIdx_map_fst]; exact bitsOf_nodup mask) (mem_zipIdx_idxOf hm)
  rw [pext_eq_scatter, scatter_or, BitVec.toNat_or, ← pext_eq_scatter, hx, show BB.ofSq t = 1#64 <<< t.val from rfl, this]
  exact congrArg _ (BB.toNat_ofSq ⟨_, hlt⟩)

theorem pdep_step {mask A : BB} {a : Nat} (t : Sq) (h : mask.has t = true)
    (ha : pdep (BitVec.ofNat 64 a) mask = A) :
    pdep (BitVec.ofNat 64 (Nat.lor a (rankBit mask t))) mask = A ||| BB.ofSq t := by
  obtain ⟨hm, hlt⟩ := idxOf_bitsOf_lt h
  have bit : BitVec.ofNat 64 (rankBit mask t) = 1#64 <<< (bitsOf mask).idxOf t.val := by
    apply BitVec.eq_of_toNat_eq
    rw [BitVec.toNat_ofNat, rankBit, Nat.mod_eq_of_lt (Nat.pow_lt_pow_right (by decide) hlt)]
    exact (BB.toNat_ofSq ⟨_, hlt⟩).symm
  show pdep (BitVec.ofNat 64 (a ||| _)) mask = _
  rw [BitVec.ofNat_or, bit, pdep_eq_scatter, scatter_or, ← pdep_eq_scatter, ha]
  congr 1
  refine scatter_bit _ t.val hlt _ ?_ (List.mem_map.mpr ⟨_, mem_zipIdx_idxOf hm, rfl⟩)
  rw [List.map_map]
  have : (Prod.fst ∘ Prod.swap : Nat × Nat → Nat) = Prod.snd := rfl
  rw [this, List.zipIdx_map_snd]
  exact List.nodup_range' ..

/-- the 16-bit entry `idx` of a packed `BMI_MOVES` slice compared with the expected entry `a` -/
def bmiLeaf (slice idx a : Nat) : Bool := Nat.beq (Nat.mod (Nat.shiftRight slice (Nat.mul 16 idx)) 65536) a

/-- the visit for a BMI2 table, with the table's mask, rays word and slice as variables -/
theorem bmiVisit_sound (mask rays : BB) (slice : Nat) (rs : List (List Sq))
    (hm : ∀ r ∈ rs, ∀ t ∈ r.dropLast, mask.has t = true) (hr : ∀ r ∈ rs, ∀ t ∈ r, rays.has t = true)
    (hv : raysCases (rs.map (encodeRay fun t => (rankBit mask t, rankBit rays t))) 0 0 (bmiLeaf slice) = true)
    (occ : BB) :
    pdep (Raw.word16 slice (pext (occ &&& BB.ofList (rs.flatMap List.dropLast)) mask).toNat) rays =
      rs.foldl (fun A r => A ||| Geom.walkL r occ) 0#64 := by
  have := raysCases_sound (cell := fun t => (rankBit mask t, rankBit rays t))
    (Ro := fun o O => (pext O mask).toNat = o) (Ra := fun a A => pdep (BitVec.ofNat 64 a) rays = A)
    (K := fun O A => pdep (Raw.word16 slice (pext O mask).toNat) rays = A) occ
    (fun o O a A ho ha hk => by
      have hk' : (slice >>> (16 * o)) % 65536 = a := Nat.eq_of_beq_eq_true hk
      simp only [ho, Raw.word16, hk']
      exact ha)
    rs 0 0#64 0 0#64 (fun r hr' t ht x X => pext_step t (hm r hr' t ht)) (fun r hr' t ht x X => pdep_step t (hr r hr' t ht))
    (by rw [pext_eq_scatter, scatter_zero]; rfl) (by rw [pdep_eq_scatter]; exact scatter_zero _) hv
  rwa [BitVec.zero_or] at this

namespace Raw

/-- what the kernel checks for one (slider, square) of the BMI2 tables.  The visit carries the `pext`
index of the occupancy and the table entry whose `pdep` is the attack set. -/
def bmiOK (r : Raw) (bishop : Bool) (s : Sq) : Bool :=
  let ds := if bishop then bishopDirs else rookDirs
  let mask := word (if bishop then r.bmiMasksB else r.bmiMasksR) s.val
  let rays := word r.rays ((if bishop then 64 else 0) + s.val)
  mask == BB.ofList (Geom.relevant ds s) &&
  (ds.all fun u => (Geom.ray s u).all fun t => rays.has t) &&
  raysCases ((ds.map (Geom.ray s)).map (encodeRay fun t => (rankBit mask t, rankBit rays t))) 0 0
    (bmiLeaf ((if bishop then r.bmiSlicesB else r.bmiSlicesR).getD s.val 0))

theorem bmiLookup_mask (r : Raw) (bishop : Bool) (s : Sq) (occ : BB) :
    r.bmiLookup bishop s occ =
      r.bmiLookup bishop s (occ &&& word (if bishop then r.bmiMasksB else r.bmiMasksR) s.val) := by
  unfold Raw.bmiLookup
  simp only [pext_mask]

theorem bmiOK_sound (r : Raw) (bishop : Bool) (s : Sq) (h : r.bmiOK bishop s = true) (occ : BB) :
    r.bmiLookup bishop s occ = Geom.sliderWalk (if bishop then bishopDirs else rookDirs) s occ := by
  simp only [bmiOK, Bool.and_eq_true, beq_iff_eq, List.all_eq_true] at h
  obtain ⟨⟨hm, hr⟩, hv⟩ := h
  rw [bmiLookup_mask, ← sliderWalk_eq, hm, ← relevant_eq]
  refine bmiVisit_sound _ _ _ _ (fun ray hray t ht => ?_) (fun ray hray t ht => ?_) (hm ▸ hv) occ
  · exact hm ▸ BB.has_ofList (relevant_eq _ s ▸ List.mem_flatMap.mpr ⟨ray, hray, ht⟩)
  · obtain ⟨u, hu, rfl⟩ := List.mem_map.mp hray
    exact hr u hu t ht

end Raw
end Chess
