import ChessVerif.Lemmas.GeomBridge6
import ChessVerif.CodeTables
/-!
`BETWEEN` and `LINE` as generated from /repo, checked against `Geom.between` / `Geom.line` by kernel
evaluation.  The geometric definitions sweep all 64 squares for each of the 64² pairs; here the eight
rays from `a` are walked once instead, which gives the expected entry of every `b` on a ray (the
squares passed so far, and the whole line through `a` in that direction), and `strictlyBetween_iff` /
`mem_line_iff` say that this is what the definitions mean.
-/
namespace Chess.TableProofs

/-- each square of a ray with the set of ray squares before it -/
def prefixes : List Sq → BB → List (Sq × BB)
  | [], _ => []
  | b :: bs, acc => (b, acc) :: prefixes bs (acc ||| BB.ofSq b)

/-- `BETWEEN[a][b]` and `LINE[a][b]` for every `b` on a ray from `a`, got by walking the eight rays: the
squares passed before `b`, and the whole line (`a`, the ray through `b` and the opposite ray) -/
def rayRows (a : Sq) : List (Sq × BB × BB) :=
  allDirs.flatMap fun u =>
    (prefixes (Geom.ray a u) 0#64).map fun p =>
      (p.1, p.2, BB.ofSq a ||| BB.ofList (Geom.ray a u) ||| BB.ofList (Geom.ray a u.opp))

theorem mem_prefixes {b : Sq} {pre : BB} : ∀ {r : List Sq} {acc : BB}, (b, pre) ∈ prefixes r acc →
    ∃ i : Nat, r[i]? = some b ∧
      ∀ x : Sq, pre.getLsbD x.val = true ↔ acc.getLsbD x.val = true ∨ ∃ j : Nat, j < i ∧ r[j]? = some x
  | [], _, h => by cases h
  | c :: cs, acc, h => by
    rcases List.mem_cons.mp h with h | h
    · cases h; exact ⟨0, rfl, fun x => by simp⟩
    · obtain ⟨i, hi, hp⟩ := mem_prefixes h
      refine ⟨i + 1, hi, fun x => ?_⟩
      rw [hp x, BitVec.getLsbD_or, Bool.or_eq_true, BB.getLsbD_ofSq_val, decide_eq_true_eq, or_assoc]
      refine or_congr_right ⟨?_, ?_⟩
      · rintro (rfl | ⟨j, hj, hx⟩)
        · exact ⟨0, by omega, rfl⟩
        · exact ⟨j + 1, by omega, hx⟩
      · rintro ⟨j, hj, hx⟩
        cases j with
        | zero => left; simpa using hx.symm
        | succ j => exact Or.inr ⟨j, by omega, hx⟩

theorem fst_mem_prefixes {b : Sq} : ∀ {r : List Sq} {acc : BB}, b ∈ r → b ∈ (prefixes r acc).map Prod.fst
  | c :: cs, acc, h => by
    rcases List.mem_cons.mp h with rfl | h
    · simp [prefixes]
    · simp only [prefixes, List.map_cons, List.mem_cons]; exact Or.inr (fst_mem_prefixes h)

theorem rayRows_sound {a b : Sq} {pre L : BB} (hm : (b, pre, L) ∈ rayRows a) :
    Geom.between a b = pre ∧ Geom.line a b = L := by
  obtain ⟨u, _, hm⟩ := List.mem_flatMap.mp hm
  obtain ⟨⟨b', pre'⟩, hp, hpv⟩ := List.mem_map.mp hm
  simp only [Prod.mk.injEq] at hpv
  obtain ⟨rfl, rfl, rfl⟩ := hpv
  obtain ⟨i, hi, hpre⟩ := mem_prefixes hp
  rw [ray_getElem?] at hi
  have hon : onRay a u (i + 1) b' = true := (onRay_iff_step ..).mpr ⟨by omega, hi⟩
  constructor
  · apply BB.ext; intro x
    rw [Bool.eq_iff_iff, mem_between, strictlyBetween_iff, hpre x]
    simp only [BitVec.getLsbD_zero, Bool.false_eq_true, false_or, ray_getElem?]
    constructor
    · rintro ⟨u', n, t, h1, h2, htn⟩
      obtain ⟨rfl, rfl⟩ := ray_dir_unique h1 hon
      obtain ⟨ht, h2⟩ := (onRay_iff_step ..).mp h2
      exact ⟨t - 1, by omega, by rwa [Nat.sub_add_cancel ht]⟩
    · rintro ⟨j, hj, hx⟩
      exact ⟨u, i + 1, j + 1, hon, (onRay_iff_step ..).mpr ⟨by omega, hx⟩, by omega⟩
  · apply BB.ext; intro x
    rw [Bool.eq_iff_iff, mem_line_iff]
    simp only [BitVec.getLsbD_or, BB.getLsbD_ofSq_val, BB.getLsbD_ofList, Bool.or_eq_true, decide_eq_true_eq,
      mem_ray_iff_onRay]
    constructor
    · rintro ⟨u', n, h1, hx⟩
      obtain ⟨rfl, _⟩ := ray_dir_unique h1 hon
      rcases hx with hx | hx | hx
      · exact Or.inl (Or.inl hx)
      · exact Or.inl (Or.inr hx)
      · exact Or.inr hx
    · intro hx
      refine ⟨u, i + 1, hon, ?_⟩
      rcases hx with (hx | hx) | hx
      · exact Or.inl hx
      · exact Or.inr (Or.inl hx)
      · exact Or.inr (Or.inr hx)

theorem off_rays {a b : Sq} (hb : ∀ u, b ∉ Geom.ray a u) : Geom.between a b = 0#64 ∧ Geom.line a b = 0#64 := by
  have hb : ∀ u n, ¬ onRay a u n b = true := fun u n h => hb u ((mem_ray_iff_onRay a u b).mpr ⟨n, h⟩)
  constructor
  · apply BB.ext; intro x
    rw [mem_between, BitVec.getLsbD_zero]
    cases h : strictlyBetween a x b with
    | false => rfl
    | true => obtain ⟨u, n, t, h1, _, _⟩ := (strictlyBetween_iff a x b).mp h; exact absurd h1 (hb u n)
  · apply BB.ext; intro x
    rw [BitVec.getLsbD_zero]
    cases h : (Geom.line a b).getLsbD x.val with
    | false => rfl
    | true => obtain ⟨u, n, h1, _⟩ := (mem_line_iff a b x).mp h; exact absurd h1 (hb u n)

/-- both tables: the squares on a ray from `a` against the walked rows, all others empty -/
def rowsOK (between line : Sq → Sq → BB) : Bool :=
  allSq.all fun a =>
    ((rayRows a).all fun r => between a r.1 == r.2.1 && line a r.1 == r.2.2) &&
    allSq.all fun b => (BB.ofList (allDirs.flatMap (Geom.ray a))).has b || (between a b == 0#64 && line a b == 0#64)

theorem rowsOK_sound {between line : Sq → Sq → BB} (h : rowsOK between line = true) (a b : Sq) :
    between a b = Geom.between a b ∧ line a b = Geom.line a b := by
  simp only [rowsOK, List.all_eq_true, Bool.and_eq_true, Bool.or_eq_true, beq_iff_eq] at h
  obtain ⟨hrows, hoff⟩ := h a (List.mem_finRange a)
  by_cases hb : ∃ u, b ∈ Geom.ray a u
  · obtain ⟨u, hu⟩ := hb
    obtain ⟨p, hp, rfl⟩ := List.mem_map.mp (fst_mem_prefixes (acc := 0#64) hu)
    have hm : (p.1, p.2, _) ∈ rayRows a :=
      List.mem_flatMap.mpr ⟨u, mem_allDirs u, List.mem_map.mpr ⟨p, hp, rfl⟩⟩
    obtain ⟨g1, g2⟩ := rayRows_sound hm
    obtain ⟨t1, t2⟩ := hrows _ hm
    exact ⟨t1.trans g1.symm, t2.trans g2.symm⟩
  · have hb' : ∀ u, b ∉ Geom.ray a u := fun u hu => hb ⟨u, hu⟩
    rcases hoff b (List.mem_finRange b) with hm | hz
    · rw [BB.has, BB.getLsbD_ofList, decide_eq_true_eq, List.mem_flatMap] at hm
      obtain ⟨u, _, hu⟩ := hm
      exact absurd hu (hb' u)
    · obtain ⟨g1, g2⟩ := off_rays hb'
      exact ⟨hz.1.trans g1.symm, hz.2.trans g2.symm⟩

theorem rows_ok : rowsOK codeTables.between codeTables.line = true := by decide +kernel

theorem between_all : (allSq.all fun a => allSq.all fun b => codeTables.between a b == Geom.between a b) = true := by
  simp only [List.all_eq_true, beq_iff_eq]
  exact fun a _ b _ => (rowsOK_sound rows_ok a b).1
theorem line_all : (allSq.all fun a => allSq.all fun b => codeTables.line a b == Geom.line a b) = true := by
  simp only [List.all_eq_true, beq_iff_eq]
  exact fun a _ b _ => (rowsOK_sound rows_ok a b).2
end Chess.TableProofs
