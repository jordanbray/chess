import ChessVerif.Geom
import ChessVerif.CodeTables
/-! The tables indexed by one square, colour, file or rank, as generated from /repo, against their
geometric definitions: kernel evaluation over the whole index range (re-checked whenever the data
changes). -/
namespace Chess.TableProofs
theorem king_all : (allSq.all fun s => codeTables.king s == Geom.king s) = true := by decide +kernel
theorem knight_all : (allSq.all fun s => codeTables.knight s == Geom.knight s) = true := by decide +kernel
theorem rookRays_all : (allSq.all fun s => codeTables.rookRays s == Geom.rookRays s) = true := by decide +kernel
theorem bishopRays_all : (allSq.all fun s => codeTables.bishopRays s == Geom.bishopRays s) = true := by decide +kernel
theorem pawnAttacks_all : (allColors.all fun c => allSq.all fun s => codeTables.pawnAttacks c s == Geom.pawnAttacks c s) = true := by decide +kernel
theorem pawnMoves_all : (allColors.all fun c => allSq.all fun s => codeTables.pawnMoves c s == Geom.pawnMoves c s) = true := by decide +kernel
theorem pawnSrcDouble_ok : codeTables.pawnSrcDouble = Geom.pawnSrcDouble := by decide +kernel
theorem pawnDstDouble_ok : codeTables.pawnDstDouble = Geom.pawnDstDouble := by decide +kernel
theorem castleMoves_ok : codeTables.castleMoves = Geom.castleMoves := by decide +kernel
theorem ksCastle_all : (allColors.all fun c => codeTables.ksCastle c == Geom.ksCastle c) = true := by decide +kernel
theorem qsCastle_all : (allColors.all fun c => codeTables.qsCastle c == Geom.qsCastle c) = true := by decide +kernel
theorem files_all : ((List.finRange 8).all fun f => codeTables.files f == Geom.files f) = true := by decide +kernel
theorem adjFiles_all : ((List.finRange 8).all fun f => codeTables.adjFiles f == Geom.adjFiles f) = true := by decide +kernel
theorem ranks_all : ((List.finRange 8).all fun f => codeTables.ranks f == Geom.ranks f) = true := by decide +kernel
theorem edges_ok : codeTables.edges = Geom.edges := by decide +kernel
end Chess.TableProofs
