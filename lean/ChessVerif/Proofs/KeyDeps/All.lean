import ChessVerif.Props.C09
/-! Where the keys of the tables sit in `Props.allKeys`, and the pairwise fact of `Props/C09` for any
two different list positions. -/
namespace Chess.KeyDeps

theorem allKeys_length : Props.allKeys.length = 793 := by
  rw [← Props.keys_map, List.length_map, keys_length]

theorem allKeys_getElem_xor (i j : Nat) (hi : i < Props.allKeys.length) (hj : j < Props.allKeys.length)
    (hij : i ≠ j) : Props.allKeys[i] ^^^ Props.allKeys[j] ∉ Props.allKeys :=
  pairwise_getElem_ne (R := fun a b => a ^^^ b ∉ Props.allKeys)
    (fun a b h => by rw [BitVec.xor_comm]; exact h) (Props.allKeys_pairwise.imp And.right) i j hi hj hij

open Props in
theorem zPiece_getElem (c : Color) (pc : Piece) (s : Sq) :
    ∃ h : (c.toIndex * 6 + pc.toIndex) * 64 + s.val < allKeys.length,
      T.zPiece c pc s = allKeys[(c.toIndex * 6 + pc.toIndex) * 64 + s.val] := by
  have hc : c.toIndex < 2 := by cases c <;> decide
  have hp : pc.toIndex < 6 := by cases pc <;> decide
  have hs := s.isLt
  have hlt : (c.toIndex * 6 + pc.toIndex) * 64 + s.val < 768 := by omega
  refine ⟨by rw [allKeys_length]; omega, ?_⟩
  unfold allKeys
  rw [List.getElem_append_left (by simp; omega), List.getElem_append_left (by simp; omega),
    List.getElem_append_left (by simp; omega), List.getElem_map, List.getElem_range]
  rfl

open Props in
theorem zSide_mem : T.zSide ∈ allKeys := by
  unfold allKeys
  apply List.mem_append_right
  exact List.mem_singleton.mpr rfl

end Chess.KeyDeps
