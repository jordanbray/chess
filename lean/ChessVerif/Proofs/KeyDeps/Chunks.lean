import ChessVerif.Lemmas.KeyDeps
/-!
The check of `Lemmas/KeyDeps` on the key list extracted from /repo: for list positions `i < j`,
`k_i ^^^ k_j` is neither `0` nor a key.  Kernel evaluation, in eight chunks of outer keys (each outer
key is taken against all later ones, so the chunks grow to stay of equal work); they are glued here.
-/
namespace Chess.KeyDeps

theorem chunk0 : chunkOK 0 52 = true := by decide +kernel
theorem chunk1 : chunkOK 52 55 = true := by decide +kernel
theorem chunk2 : chunkOK 107 59 = true := by decide +kernel
theorem chunk3 : chunkOK 166 67 = true := by decide +kernel
theorem chunk4 : chunkOK 233 75 = true := by decide +kernel
theorem chunk5 : chunkOK 308 89 = true := by decide +kernel
theorem chunk6 : chunkOK 397 116 = true := by decide +kernel
theorem chunk7 : chunkOK 513 280 = true := by decide +kernel

theorem keys_length : keys.length = 793 := by decide +kernel

theorem keys_pairwise : keys.Pairwise (fun a b => a ^^^ b ∉ keys0) :=
  ntFrom_spec keys0 keys 793 (Nat.le_of_eq keys_length)
    (ntFrom_add _ _ _ keys 513 280
      (ntFrom_add _ _ _ keys 397 116
        (ntFrom_add _ _ _ keys 308 89
          (ntFrom_add _ _ _ keys 233 75
            (ntFrom_add _ _ _ keys 166 67
              (ntFrom_add _ _ _ keys 107 59
                (ntFrom_add _ _ _ keys 52 55 chunk0 chunk1) chunk2) chunk3) chunk4) chunk5) chunk6) chunk7)

theorem keys_lt : keys.all (fun k => Nat.blt k 18446744073709551616) = true := by decide +kernel

end Chess.KeyDeps
