import ChessVerif.Proofs.SliderAll
import ChessVerif.Proofs.Tables.Small
import ChessVerif.Proofs.Tables.Lines
/-! `TablesOK codeTables`: every table the code generates equals its geometric definition (C15, C16). -/
namespace Chess
open TableProofs

theorem codeTables_ok : TablesOK codeTables where
  king s := by simpa using (allSq_all _).mp king_all s
  knight s := by simpa using (allSq_all _).mp knight_all s
  rookRays s := by simpa using (allSq_all _).mp rookRays_all s
  bishopRays s := by simpa using (allSq_all _).mp bishopRays_all s
  between a b := by simpa using (allSq_all _).mp ((allSq_all _).mp between_all a) b
  line a b := by simpa using (allSq_all _).mp ((allSq_all _).mp line_all a) b
  pawnAttacks c s := by simpa using (allSq_all _).mp ((allColors_all _).mp pawnAttacks_all c) s
  pawnMoves c s := by simpa using (allSq_all _).mp ((allColors_all _).mp pawnMoves_all c) s
  pawnSrcDouble := pawnSrcDouble_ok
  pawnDstDouble := pawnDstDouble_ok
  castleMoves := castleMoves_ok
  ksCastle c := by simpa using (allColors_all _).mp ksCastle_all c
  qsCastle c := by simpa using (allColors_all _).mp qsCastle_all c
  files f := by simpa using (finRange_all _).mp files_all f
  adjFiles f := by simpa using (finRange_all _).mp adjFiles_all f
  ranks r := by simpa using (finRange_all _).mp ranks_all r
  edges := edges_ok
  rookMoves := rookMoves_eq_walk
  bishopMoves := bishopMoves_eq_walk

end Chess
