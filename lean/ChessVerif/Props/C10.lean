import ChessVerif.Lemmas.Game
import ChessVerif.Lemmas.GameExamples
/-!
# C10 — the game protocol of `game.rs` (about the Model `Chess.Game`)

"A game accepts a move exactly when it has no result yet and the move is legal in its current
position; its current position, side to move and action log always equal the start position advanced
by precisely the accepted actions in order.  As soon as a result exists it names the right outcome and
side, never changes, and every further action is refused without altering the game; a draw is accepted
only if the latest action is a draw offer or the latest action is a move whose mover offered a draw
immediately before it."

All statements hold for every game value `g` (any start board, any log), every `T : Tables` and every
request.  The outer `Option` of the model functions is the Rust panic; a statement with hypothesis
`… = some …` speaks about the non-panicking runs, and `C10_no_panic` says when a run cannot panic.

Reading guide:
* `Game.perform T g a` dispatches a request `a : Action` to `makeMove / offerDraw / acceptDraw /
  declareDraw / resign`; `Game.run` performs a list of requests.
* `Game.LogOK T g`: every action in the log was acceptable when it was appended.
* `legal → make_move_new does not panic` is **false for arbitrary `Board` values** (see
  `C10_legal_makeMove_some_fails_on_insane_board`), so `C10_no_panic` takes it as a hypothesis about
  the positions of the game at hand.  `Props/C10NoPanic.lean` proves it for every board whose own
  pieces are recorded in `combined` and whose side to move has a king (in particular every `is_sane`
  board); that `make_move_new` preserves this along a game is outside this property.
-/
namespace Chess.Props
open Chess Chess.Game Chess.GameExamples

/-! ## position, side to move and log are the replay of the accepted actions -/

/-- a move flips the side to move -/
theorem C10_makeMoveNew_stm {T : Tables} {b b' : Board} {m : Move}
    (h : b.makeMoveNew T m = some b') : b'.stm = b.stm.other := Board.makeMoveNew_stm h

/-- the current position is the start position advanced by exactly the `makeMove` actions of the
log, in order -/
theorem C10_position_is_replay (T : Tables) (g : Game) :
    g.currentPosition T =
      (g.moves.filterMap moveOf).foldlM (fun b m => b.makeMoveNew T m) g.startPos := by
  obtain ⟨s, l⟩ := g
  induction l generalizing s with
  | nil => rfl
  | cons a t ih =>
    cases a with
    | makeMove m => rw [currentPosition_cons_move]; exact Option.bind_congr fun b' _ => ih b'
    | _ => rw [currentPosition_cons_other _ _ _ _ rfl]; exact ih s

/-- the side to move (computed by parity in the code) is the side to move of the replayed position -/
theorem C10_side_is_replay {T : Tables} {g : Game} {cur : Board}
    (h : g.currentPosition T = some cur) : cur.stm = g.sideToMove := currentPosition_stm T g h

/-- a move is accepted exactly when there is no result yet and it is legal in the current position -/
theorem C10_make_move_iff {T : Tables} {g g' : Game} {m : Move} {acc : Bool}
    (h : g.makeMove T m = some (g', acc)) :
    (acc = true ↔ g.result T = some none ∧ ∃ cur, g.currentPosition T = some cur ∧ cur.legal T m = true) :=
  (perform_spec (a := .makeMove m) h).1.trans (and_congr_right' admits_makeMove)

/-- uniformly: an accepted request is appended to the log, a refused one leaves the game untouched,
and nothing is accepted unless the game had no result -/
theorem C10_log_perform {T : Tables} {g g' : Game} {a : Action} {acc : Bool}
    (h : g.perform T a = some (g', acc)) :
    g'.startPos = g.startPos ∧ (acc = true → g'.moves = g.moves ++ [a] ∧ g.result T = some none) ∧
      (acc = false → g' = g) :=
  have ⟨h0, h1, h2⟩ := perform_log h
  ⟨h0, fun ha => ⟨h1 ha, ((perform_spec h).1.1 ha).1⟩, h2⟩

/-- the five operations are the five cases of `perform` -/
theorem C10_log_make_move {T : Tables} {g g' : Game} {m : Move} {acc : Bool}
    (h : g.makeMove T m = some (g', acc)) :
    g'.startPos = g.startPos ∧ (acc = true → g'.moves = g.moves ++ [.makeMove m]) ∧ (acc = false → g' = g) :=
  perform_log (a := .makeMove m) h

/-- offers and resignations are accepted exactly when there is no result yet -/
theorem C10_offer_draw_iff {T : Tables} {g g' : Game} {c : Color} {acc : Bool}
    (h : g.offerDraw T c = some (g', acc)) : (acc = true ↔ g.result T = some none) :=
  (perform_spec (a := .offerDraw c) h).1.trans (and_iff_left rfl)

theorem C10_log_offer_draw {T : Tables} {g g' : Game} {c : Color} {acc : Bool}
    (h : g.offerDraw T c = some (g', acc)) :
    g'.startPos = g.startPos ∧ (acc = true → g'.moves = g.moves ++ [.offerDraw c]) ∧ (acc = false → g' = g) :=
  perform_log (a := .offerDraw c) h

theorem C10_resign_iff {T : Tables} {g g' : Game} {c : Color} {acc : Bool}
    (h : g.resign T c = some (g', acc)) : (acc = true ↔ g.result T = some none) :=
  (perform_spec (a := .resign c) h).1.trans (and_iff_left rfl)

theorem C10_log_resign {T : Tables} {g g' : Game} {c : Color} {acc : Bool}
    (h : g.resign T c = some (g', acc)) :
    g'.startPos = g.startPos ∧ (acc = true → g'.moves = g.moves ++ [.resign c]) ∧ (acc = false → g' = g) :=
  perform_log (a := .resign c) h

theorem C10_log_accept_draw {T : Tables} {g g' : Game} {acc : Bool}
    (h : g.acceptDraw T = some (g', acc)) :
    g'.startPos = g.startPos ∧ (acc = true → g'.moves = g.moves ++ [.acceptDraw]) ∧ (acc = false → g' = g) :=
  perform_log (a := .acceptDraw) h

theorem C10_log_declare_draw {T : Tables} {g g' : Game} {acc : Bool}
    (h : g.declareDraw T = some (g', acc)) :
    g'.startPos = g.startPos ∧ (acc = true → g'.moves = g.moves ++ [.declareDraw]) ∧ (acc = false → g' = g) :=
  perform_log (a := .declareDraw) h

/-- after any sequence of requests the log is the old log followed by precisely the accepted requests,
in order; the start position never changes (so, by `C10_position_is_replay` and `C10_side_is_replay`,
position and side to move are the start position advanced by the accepted moves) -/
theorem C10_log_is_accepted_requests {T : Tables} {g gf : Game} {reqs accd : List Action}
    (h : run T g reqs = some (gf, accd)) :
    gf.startPos = g.startPos ∧ gf.moves = g.moves ++ accd ∧ accd.Sublist reqs := by
  induction reqs generalizing g accd with
  | nil => cases h; simp
  | cons a rest ih =>
    obtain ⟨g', acc, l, hp, hr, rfl⟩ := run_cons_eq_some h
    obtain ⟨h1, h2, h3⟩ := ih hr
    cases acc with
    | true => rw [(perform_spec hp).2.1 rfl] at h1 h2; exact ⟨h1, by simpa using h2, h3.cons_cons a⟩
    | false => rw [(perform_spec hp).2.2 rfl] at h1 h2; exact ⟨h1, h2, h3.cons a⟩

/-! ## once there is a result -/

/-- with a result, each of the five operations refuses and returns the game unchanged -/
theorem C10_result_final {T : Tables} {g : Game} {r : GameResult} (hr : g.result T = some (some r)) :
    (∀ m, g.makeMove T m = some (g, false)) ∧ (∀ c, g.offerDraw T c = some (g, false)) ∧
    (∀ c, g.resign T c = some (g, false)) ∧ g.acceptDraw T = some (g, false) ∧
    g.canDeclareDraw T = some false ∧ g.declareDraw T = some (g, false) :=
  ⟨fun m => perform_of_result hr (.makeMove m), fun c => perform_of_result hr (.offerDraw c),
   fun c => perform_of_result hr (.resign c), perform_of_result hr .acceptDraw,
   canDeclareDraw_of_result hr, perform_of_result hr .declareDraw⟩

/-- the result never changes: after any request the game still has the same result -/
theorem C10_result_stable {T : Tables} {g g' : Game} {r : GameResult} {a : Action} {acc : Bool}
    (hr : g.result T = some (some r)) (h : g.perform T a = some (g', acc)) :
    acc = false ∧ g' = g ∧ g'.result T = some (some r) := by
  rw [perform_of_result hr a] at h
  simp only [Option.some.injEq, Prod.mk.injEq] at h
  obtain ⟨rfl, rfl⟩ := h
  exact ⟨rfl, rfl, hr⟩

/-- … and after any sequence of requests: nothing is accepted, nothing changes -/
theorem C10_result_stable_run {T : Tables} {g : Game} {r : GameResult} (hr : g.result T = some (some r))
    (reqs : List Action) : run T g reqs = some (g, []) := by
  induction reqs with
  | nil => rfl
  | cons a rest ih => simp [run, perform_of_result hr a, ih]

/-- the result names the right outcome and side: checkmate / stalemate are read off the current
position (the winner is the side *not* to move), everything else off the last action of the log -/
theorem C10_result_correct {T : Tables} {g : Game} {r : GameResult} (h : g.result T = some (some r)) :
    ∃ cur, g.currentPosition T = some cur ∧ cur.stm = g.sideToMove ∧
      (r = .whiteCheckmates ↔ cur.status T = .checkmate ∧ cur.stm = .black) ∧
      (r = .blackCheckmates ↔ cur.status T = .checkmate ∧ cur.stm = .white) ∧
      (r = .stalemate ↔ cur.status T = .stalemate) ∧
      (r = .drawAccepted ↔ cur.status T = .ongoing ∧ g.moves.getLast? = some .acceptDraw) ∧
      (r = .drawDeclared ↔ cur.status T = .ongoing ∧ g.moves.getLast? = some .declareDraw) ∧
      (r = .whiteResigns ↔ cur.status T = .ongoing ∧ g.moves.getLast? = some (.resign .white)) ∧
      (r = .blackResigns ↔ cur.status T = .ongoing ∧ g.moves.getLast? = some (.resign .black)) :=
  result_correct h

/-- there is no result exactly when the position is ongoing and the last action (if any) is a move
or a draw offer -/
theorem C10_no_result_iff {T : Tables} {g : Game} :
    g.result T = some none ↔
      ∃ cur, g.currentPosition T = some cur ∧ cur.status T = .ongoing ∧
        (g.moves.getLast? = none ∨ (∃ m, g.moves.getLast? = some (.makeMove m)) ∨
          (∃ c, g.moves.getLast? = some (.offerDraw c))) := result_none_iff

/-- an accepted resignation / draw acceptance / draw declaration produces the corresponding result at
once; an accepted offer produces none (`resultOfAction`: acceptDraw ↦ DrawAccepted, declareDraw ↦
DrawDeclared, resign c ↦ c resigns, offerDraw ↦ no result) -/
theorem C10_result_after_nonmove {T : Tables} {g g' : Game} {a : Action}
    (ha : isMove a = false) (h : g.perform T a = some (g', true)) :
    g'.result T = some (resultOfAction a) := by
  rw [(perform_spec h).2.1 rfl]
  exact result_after_nonmove (perform_accepted h).1 a ha

/-! ## accepting a draw -/

/-- `accept_draw` succeeds exactly when there is no result and the code's test on the log holds -/
theorem C10_accept_draw_iff {T : Tables} {g g' : Game} {acc : Bool} (h : g.acceptDraw T = some (g', acc)) :
    (acc = true ↔ g.result T = some none ∧
      ((∃ c, g.moves.getLast? = some (.offerDraw c)) ∨
       (∃ m pre, g.moves = pre ++ [.offerDraw g.sideToMove.other, .makeMove m]))) :=
  (perform_spec (a := .acceptDraw) h).1.trans (and_congr_right fun hr => acceptTest_iff hr)

/-- a draw is accepted only if the latest action is a draw offer, or the latest action is a move
whose mover (`= sideToMove.other` now) offered a draw immediately before it.  (The code only tests
`moves[n-2]`; that `moves[n-1]` is then a move follows from the game having no result.) -/
theorem C10_accept_only_if {T : Tables} {g g' : Game} (h : g.acceptDraw T = some (g', true)) :
    (∃ c, g.moves.getLast? = some (.offerDraw c)) ∨
    (∃ m pre, g.moves = pre ++ [.offerDraw g.sideToMove.other, .makeMove m]) :=
  ((C10_accept_draw_iff h).1 rfl).2

/-! ## the log invariant and absence of panics -/

theorem C10_LogOK_new (T : Tables) (s : Board) : LogOK T ⟨s, []⟩ := by
  intro k a h; cases h

theorem C10_LogOK_preserved {T : Tables} {g g' : Game} {a : Action} {acc : Bool} (h : LogOK T g)
    (hp : g.perform T a = some (g', acc)) : LogOK T g' := by
  cases acc with
  | false => rw [(perform_spec hp).2.2 rfl]; exact h
  | true =>
    rw [(perform_spec hp).2.1 rfl]
    exact LogOK_snoc h (perform_accepted hp).1 (perform_accepted hp).2

theorem C10_LogOK_run {T : Tables} {g gf : Game} {reqs accd : List Action} (hg : LogOK T g)
    (h : run T g reqs = some (gf, accd)) : LogOK T gf := by
  induction reqs generalizing g accd with
  | nil => cases h; exact hg
  | cons a rest ih =>
    obtain ⟨g', acc, l, hp, hr, _⟩ := run_cons_eq_some h
    exact ih (C10_LogOK_preserved hg hp) hr

/-- what `LogOK` says, in terms of splittings of the log -/
theorem C10_LogOK_iff (T : Tables) (g : Game) :
    LogOK T g ↔ ∀ pre a post, g.moves = pre ++ a :: post →
      result T ⟨g.startPos, pre⟩ = some none ∧
      ∀ m, a = .makeMove m → ∃ cur, currentPosition T ⟨g.startPos, pre⟩ = some cur ∧ cur.legal T m = true := by
  constructor
  · intro h pre a post hs
    simpa [hs] using h pre.length a (by simp [hs])
  · intro h k a hk
    obtain ⟨hlt, ha⟩ := List.getElem?_eq_some_iff.1 hk
    refine h (g.moves.take k) a (g.moves.drop (k + 1)) ?_
    rw [← ha, List.getElem_cons_drop, List.take_append_drop]

/-- no panic: a log built by the operations replays without panic, *provided* legal moves of the
positions of this game start from an occupied square (`hsafe`).  Then `currentPosition`, `result`
and `canDeclareDraw` are all defined. -/
theorem C10_no_panic {T : Tables} {g : Game} (h : LogOK T g)
    (hsafe : ∀ k cur m, currentPosition T ⟨g.startPos, g.moves.take k⟩ = some cur →
      cur.legal T m = true → (cur.makeMoveNew T m).isSome) :
    (g.currentPosition T).isSome ∧ (g.result T).isSome ∧ (g.canDeclareDraw T).isSome := by
  have h1 := LogOK_currentPosition_isSome h hsafe
  refine ⟨h1, ?_, ?_⟩
  · cases hr : g.result T with
    | none => rw [(result_eq_none_iff T g).1 hr] at h1; cases h1
    | some r => rfl
  · cases hr : g.canDeclareDraw T with
    | none => rw [(canDeclareDraw_eq_none_iff T g).1 hr] at h1; cases h1
    | some r => rfl

/-- the full-strength wish "a legal move never makes `make_move_new` panic", for arbitrary boards -/
def C10_legal_makeMove_some_full : Prop :=
  ∀ (T : Tables) (b : Board) (m : Move), b.legal T m = true → (b.makeMoveNew T m).isSome

/-- … is false: on the empty board `Board::new()` with the real tables the generator offers the king
move a1b1 (the "king square" of an empty king board is `Square(64 & 63) = a1`), and `make_move_new`
panics on the empty source square.  Such a `Board` cannot be obtained through `BoardBuilder`/FEN. -/
theorem C10_legal_makeMove_some_fails_on_insane_board : ¬ C10_legal_makeMove_some_full := by
  intro h
  have := h codeTables Board.blank ⟨0, 1, none⟩ (by decide +kernel)
  revert this
  decide +kernel

/-- `make_move_new` panics exactly on an empty source square -/
theorem C10_makeMoveNew_isSome (T : Tables) (b : Board) (m : Move) :
    (b.makeMoveNew T m).isSome = (b.pieceOn m.src).isSome := Board.makeMoveNew_isSome_iff T b m

/-! ## non-vacuity (real tables, real positions) -/

/-- 1. e4 is accepted from the initial position, 1. e5 is refused -/
example : (newGame.makeMove codeTables ⟨12, 28, none⟩).map (·.2) = some true ∧
    (newGame.makeMove codeTables ⟨12, 36, none⟩).map (·.2) = some false := by decide +kernel

/-- fool's mate: the result is "Black checkmates", so the hypotheses of `C10_result_final`,
`C10_result_stable`, `C10_result_correct` are satisfiable -/
example : foolsMate.result codeTables = some (some .blackCheckmates) := by decide +kernel

/-- the hypothesis of `C10_accept_only_if` (second alternative: offer, then move) is satisfiable -/
example : (offered.acceptDraw codeTables).map (·.2) = some true := by decide +kernel

/-- `LogOK` holds for a real game: fool's mate is the log of a run on the new game -/
example : LogOK codeTables foolsMate :=
  C10_LogOK_run (g := newGame) (reqs := foolsMate.moves) (accd := foolsMate.moves) (C10_LogOK_new _ _)
    (by decide +kernel)

end Chess.Props
