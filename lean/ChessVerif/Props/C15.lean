import ChessVerif.Proofs.SliderAll
/-!
# C15 — sliding attack look-ups equal ray walking for every square and occupancy

`Geom.rookWalk s occ` / `Geom.bishopWalk s occ` is the specification: the squares reached by walking
each ray from `s` up to and including the first occupied square.  `codeTables.rookMoves` is the
model of `get_rook_moves` (`MOVES[offset + ((magic * (occ & mask)) >> shift)] & rays`) evaluated on
the tables generated by the current build of /repo; `codeRaw.bmiLookup` is the model of
`get_rook_moves_bmi` (`pdep(BMI_MOVES[offset + pext(occ, mask)], rays)`) on the `+bmi2` build's tables.
All four statements quantify over all 64 squares and all 2^64 occupancies.
-/
namespace Chess.Props

theorem C15_rook (s : Sq) (occ : BB) : codeTables.rookMoves s occ = Geom.rookWalk s occ :=
  rookMoves_eq_walk s occ

theorem C15_bishop (s : Sq) (occ : BB) : codeTables.bishopMoves s occ = Geom.bishopWalk s occ :=
  bishopMoves_eq_walk s occ

theorem C15_rook_bmi (hb : Gen.haveBmi = true) (s : Sq) (occ : BB) :
    codeRaw.bmiLookup false s occ = Geom.rookWalk s occ := rookMovesBmi_eq_walk hb s occ

theorem C15_bishop_bmi (hb : Gen.haveBmi = true) (s : Sq) (occ : BB) :
    codeRaw.bmiLookup true s occ = Geom.bishopWalk s occ := bishopMovesBmi_eq_walk hb s occ

theorem C15_configurations_agree (hb : Gen.haveBmi = true) (s : Sq) (occ : BB) :
    codeRaw.bmiLookup false s occ = codeTables.rookMoves s occ ∧
    codeRaw.bmiLookup true s occ = codeTables.bishopMoves s occ := bmi_agrees_with_magic hb s occ

/-- the model's accessor is the table look-up the theorems speak about (by definition) -/
theorem C15_model_is_lookup (s : Sq) (occ : BB) :
    codeTables.rookMoves s occ = codeRaw.magicLookup false s occ ∧
    codeTables.bishopMoves s occ = codeRaw.magicLookup true s occ := ⟨rfl, rfl⟩

/-- the specification is not trivial: a rook on d4 with blockers on d6 and f4 -/
example : Geom.rookWalk ⟨27, by decide⟩ (BB.ofSq ⟨43, by decide⟩ ||| BB.ofSq ⟨29, by decide⟩)
    = 0x0000080837080808#64 := by decide +kernel

end Chess.Props
