import ChessVerif.Lemmas.Entries
/-!
# C14 — move iterator contract: masks partition, `len` exact, removed moves stay removed

The statements are about the model of `struct MoveGen` (`Model/MoveGen.lean`: `next`, `len`,
`setIteratorMask`, `removeMask`, `removeMove`, `drain`) and hold for **every** entry list, mask and
state satisfying the invariant `Iter.Inv` — not only for the entry lists of chess positions.

Vocabulary (`Lemmas/Iter.lean`):
* `Iter.movesUnder e mask` — the moves of one entry `(source, destination set, promotion flag)` that
  land in `mask`, destinations ascending, a promotion destination expanded to Q, N, R, B;
* `Iter.allUnder l mask` — the same for a list of entries, entry by entry; `Iter.allMoves l` is
  `allUnder l (~~~0)`; `Iter.mem_allUnder` characterises membership;
* `Iter.under g` — what the generator still has to yield under its current mask (entries from
  `index` on, minus the `promoIdx` promotions of the current destination already handed out);
* `Iter.Inv g` — the invariant of DESIGN Appendix C (`Iter.inv_iff_invIdx` is its index wording);
* `Iter.Reach g` — states reachable from a fresh generator by `next`, and by `set_iterator_mask`,
  `remove_mask`, `remove_move` outside a promotion cycle (`promoIdx = 0`: always true for a fresh
  generator and after `next` returned `None`);
* `Iter.runMasks g [B₁,…,Bₙ]` — for each mask in turn `set_iterator_mask` then `next` until `None`.
Equalities of yield *sequences* are stated where the order is determined; where `set_iterator_mask`
reorders entries the statement is a permutation (`List.Perm`, i.e. equality of multisets: "exactly once").
-/
namespace Chess.Props
open Chess.Iter Chess.MoveGen

/-! ### the invariant holds initially and is kept by every operation in scope -/

/-- every entry produced by `enumerate_moves` has a destination -/
theorem C14_enumerate_nonempty (T : Tables) (b : Board) : ∀ e ∈ enumerate T b, e.bb ≠ 0#64 :=
  Entries.enumerate_nonempty T b

theorem C14_inv_new (T : Tables) (b : Board) : Inv (newLegal T b) := Entries.inv_newLegal T b

theorem C14_inv_fresh (l : List Entry) (h : ∀ e ∈ l, e.bb ≠ 0#64) :
    Inv { moves := l, promoIdx := 0, mask := ~~~0#64, index := 0 } := inv_fresh l h

theorem C14_inv_next (g : MoveGen) (h : Inv g) : Inv (next g).2 := inv_next g h

theorem C14_inv_setMask (g : MoveGen) (h0 : g.promoIdx = 0) (m : BB) : Inv (setIteratorMask g m) :=
  inv_setMask g h0 m

theorem C14_inv_removeMask (g : MoveGen) (h0 : g.promoIdx = 0) (r : BB) : Inv (removeMask g r) :=
  inv_removeMask g h0 r

theorem C14_inv_removeMove (g : MoveGen) (h0 : g.promoIdx = 0) (m : Move) : Inv (removeMove g m).1 :=
  inv_removeMove g h0 m

theorem C14_reach_inv (g : MoveGen) (h : Reach g) : Inv g := reach_inv h

/-! ### `next` and `len` -/

/-- a successful `next` yields the first of the remaining moves under the mask and leaves the rest -/
theorem C14_next_spec (g : MoveGen) (h : Inv g) (m : Move) (g' : MoveGen)
    (hn : next g = (some m, g')) : under g = m :: under g' := next_spec g h m g' hn

/-- `next` returns `None` exactly when nothing is left under the mask -/
theorem C14_next_none_iff (g : MoveGen) (h : Inv g) : (next g).1 = none ↔ under g = [] :=
  next_none_iff g h

/-- `len` is the number of moves still to be yielded under the current mask, at every state -/
theorem C14_len_exact (g : MoveGen) (h : Inv g) : len g = (under g).length := len_exact g h

theorem C14_len_exact_reachable (g : MoveGen) (h : Reach g) : len g = (under g).length :=
  len_exact g (reach_inv h)

/-- calling `next` until `None` yields exactly `under g`, in order; the fuel of `drain` suffices;
afterwards nothing is left under the mask and the generator is outside a promotion cycle -/
theorem C14_drain_exact (g : MoveGen) (h : Inv g) :
    (drain g).1 = under g ∧ under (drain g).2 = [] ∧ Inv (drain g).2 ∧ (drain g).2.promoIdx = 0 ∧
    len (drain g).2 = 0 := by
  obtain ⟨h1, h2, h3, _, h5, _⟩ := drain_exact g h
  exact ⟨h1, h2, h3, h5, by rw [len_exact _ h3, h2]; rfl⟩

/-- `len` is the number of `Some` results the following calls of `next` will deliver -/
theorem C14_len_eq_drain (g : MoveGen) (h : Inv g) : len g = (drain g).1.length := by
  rw [(drain_exact g h).yields, len_exact g h]

/-- a fresh generator yields every move of every entry exactly once, in entry order -/
theorem C14_every_move_once (T : Tables) (b : Board) :
    Board.legalMoves T b = allMoves (enumerate T b) := Entries.legalMoves_eq T b

/-- … and `len` of the fresh generator is their number -/
theorem C14_len_new (T : Tables) (b : Board) : len (newLegal T b) = (Board.legalMoves T b).length :=
  Entries.len_newLegal T b

/-! ### masks -/

/-- after `set_iterator_mask m` the generator will yield exactly the moves of its entries landing in `m` -/
theorem C14_under_setMask (g : MoveGen) (h0 : g.promoIdx = 0) (m : BB) :
    (under (setIteratorMask g m)).Perm (allUnder g.moves m) := under_setMask g h0 m

/-- drain under the current mask `A`, then set mask `B` and drain: the first run yields the moves
under `A`, the second exactly the moves into `B` not already yielded (those into `B \ A`) -/
theorem C14_mask_partition (g : MoveGen) (h : Inv g) (B : BB) :
    (drain g).1 = under g ∧
    (drain (setIteratorMask (drain g).2 B)).1.Perm (allUnder g.moves (B &&& ~~~g.mask)) ∧
    Inv (drain (setIteratorMask (drain g).2 B)).2 ∧
    under (drain (setIteratorMask (drain g).2 B)).2 = [] := mask_partition g h B

/-- … so together every move into `A ∪ B` exactly once -/
theorem C14_mask_partition_total (g : MoveGen) (h : Inv g) (h0 : g.promoIdx = 0) (B : BB) :
    ((drain g).1 ++ (drain (setIteratorMask (drain g).2 B)).1).Perm (allUnder g.moves (g.mask ||| B)) :=
  mask_partition_total g h h0 B

/-- any sequence of masks, each drained: mask `k` yields the moves into `Bₖ \ (B₁ ∪ … ∪ Bₖ₋₁)`; in
total every move into `B₁ ∪ … ∪ Bₙ` exactly once (all moves when the masks cover the board) -/
theorem C14_mask_sequence (g : MoveGen) (h0 : g.promoIdx = 0) (Bs : List BB) :
    PermAll (runMasks g Bs).1 (seqExpected g.moves 0#64 Bs) ∧
    (runMasks g Bs).1.flatten.Perm (allUnder g.moves (Bs.foldr (· ||| ·) 0#64)) :=
  runMasks_total g h0 Bs

theorem C14_mask_sequence_covering (g : MoveGen) (h0 : g.promoIdx = 0) (Bs : List BB)
    (hc : Bs.foldr (· ||| ·) 0#64 = ~~~0#64) : (runMasks g Bs).1.flatten.Perm (allMoves g.moves) := by
  have := (runMasks_total g h0 Bs).2
  rw [hc] at this
  exact this

/-! ### removals -/

/-- `remove_mask r` beforehand: what will be yielded is what would have been, minus the moves onto `r` -/
theorem C14_under_removeMask (g : MoveGen) (h : Inv g) (h0 : g.promoIdx = 0) (r : BB) :
    (under (removeMask g r)).Perm ((under g).filter fun x => !r.getLsbD x.dst.val) :=
  under_removeMask g h h0 r

/-- `remove_move m` beforehand: every move with the same source and destination as `m` is gone, every
move with another source or destination is still yielded; the flag says whether the source has an entry -/
theorem C14_under_removeMove (g : MoveGen) (h : Inv g) (h0 : g.promoIdx = 0) (m : Move) :
    (under (removeMove g m).1).Perm
      ((under g).filter fun x => !(decide (x.src = m.src) && decide (x.dst = m.dst))) ∧
    ((removeMove g m).2 = true ↔ ∃ e ∈ g.moves, e.sq = m.src) :=
  ⟨under_removeMove g h h0 m, removeMove_flag g m⟩

/-- removed destinations stay removed under whatever masks follow, nothing else is lost -/
theorem C14_removeMask_then_masks (g : MoveGen) (h0 : g.promoIdx = 0) (r : BB) (Bs : List BB) :
    (runMasks (removeMask g r) Bs).1.flatten.Perm
      ((allUnder g.moves (Bs.foldr (· ||| ·) 0#64)).filter fun x => !r.getLsbD x.dst.val) :=
  removeMask_then_masks g h0 r Bs

theorem C14_removeMove_then_masks (g : MoveGen) (h0 : g.promoIdx = 0) (m : Move) (Bs : List BB) :
    (runMasks (removeMove g m).1 Bs).1.flatten.Perm
      ((allUnder g.moves (Bs.foldr (· ||| ·) 0#64)).filter
        fun x => !(decide (x.src = m.src) && decide (x.dst = m.dst))) :=
  removeMove_then_masks g h0 m Bs

/-! ### non-vacuity -/

/-- a pawn on a2 (a3, a4), a promoting pawn on a7 (a8, b8), and an en-passant-like second entry of a2 -/
def exEntries : List Entry :=
  [⟨⟨8, by decide⟩, 0x0000000001010000#64, false⟩, ⟨⟨48, by decide⟩, 0x0300000000000000#64, true⟩,
   ⟨⟨8, by decide⟩, 0x0000000000020000#64, false⟩]
def exGen : MoveGen := { moves := exEntries, promoIdx := 0, mask := ~~~0#64, index := 0 }

def exA2A3 : Move := ⟨⟨8, by decide⟩, ⟨16, by decide⟩, none⟩
def exMasks : List BB := [0xFF00000000000000#64, 0x0000000000FF0000#64, ~~~0#64]

example : Inv exGen := inv_fresh _ (by decide)
example : Reach (next (next exGen).2).2 := .next _ (.next _ (.fresh _ (by decide)))
example : exGen.promoIdx = 0 := rfl
/-- eleven moves; `len` agrees before, and in the middle of a promotion cycle (cursor 1) -/
example : len exGen = 11 ∧ (drain exGen).1.length = 11 ∧ (next exGen).1 = some exA2A3 ∧
    len (next (next (next exGen).2).2).2 = 8 ∧ (next (next (next exGen).2).2).2.promoIdx = 1 := by
  decide +kernel
/-- rank 8, then rank 3, then everything: 8 + 2 + 1 moves; the masks cover the board -/
example : (runMasks exGen exMasks).1.map List.length = [8, 2, 1] ∧
    exMasks.foldr (· ||| ·) 0#64 = ~~~0#64 := by decide +kernel
/-- removing a2a3 leaves ten moves (a2a4 and the second a2 entry's a2b3 among them) -/
example : (removeMove exGen exA2A3).2 = true ∧ (drain (removeMove exGen exA2A3).1).1.length = 10 ∧
    (drain (removeMask exGen 0xFF00000000000000#64)).1.length = 3 := by decide +kernel

end Chess.Props
