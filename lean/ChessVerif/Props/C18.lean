import ChessVerif.Lemmas.MakeMove
import ChessVerif.CodeTables
/-!
# C18 — `null_move`

`Board.nullMove` is the model of `Board::null_move`.  For every board and table set: it returns `None`
exactly when the cached `checkers` is non-empty; otherwise the result has the same placement
(`content`, square by square) and castling rights, the other side to move, no ep mark, keeps the
invariant `Core`, and its cached `pinned`/`checkers` are the ones computed from scratch
(`update_pin_info` of the result is the result).  The hash of the result is the position hash.
-/
namespace Chess.Props

theorem C18_null_none_iff (T : Tables) (b : Board) : b.nullMove T = none ↔ b.checkers ≠ 0#64 :=
  nullMove_none_iff T b

theorem C18_null_some (T : Tables) (b b' : Board) (h : b.nullMove T = some b') :
    b'.content = b.content ∧ b'.wcr = b.wcr ∧ b'.bcr = b.bcr ∧ b'.stm = b.stm.other ∧ b'.ep = none ∧
    (Core T b → Core T b') ∧ Board.updatePinInfo T b' = b' := by
  obtain ⟨hs, h1, h2, h3, h4, h5⟩ := nullMove_spec T b b' h
  exact ⟨hs.content_eq, h1, h2, h3, h4, (hs.core_iff T).mpr, h5⟩

/-- on the abstraction: the position after a null move is the same position with the side flipped and the
ep mark cleared -/
theorem C18_null_abs (T : Tables) (b b' : Board) (h : b.nullMove T = some b') :
    b'.abs = { b.abs with stm := b.stm.other, ep := none } := nullMove_abs h

theorem C18_null_hash (T : Tables) (b b' : Board) (hc : Core T b) (h : b.nullMove T = some b') :
    b'.getHash T = b'.abs.hashOf T :=
  getHash_eq_hashOf T b' (((C18_null_some T b b' h).2.2.2.2.2.1) hc).hash

/-- the result of `null_move` differs from the source in the side to move (that the source is not touched is
by construction: the model is a function of its argument) -/
theorem C18_null_flips (T : Tables) (b b' : Board) (h : b.nullMove T = some b') : b'.stm ≠ b.stm := by
  rw [(C18_null_some T b b' h).2.2.2.1]; exact Color.other_ne b.stm

/-! non-vacuity: kings on e1/e8 and a white pawn on e4, white to move, built by `try_from` with the
code's tables: the null move exists, black is to move afterwards, and a board in check has none -/
def c18ExNullBd : Builder where
  pieces s := match s.val with
    | 4 => some (.king, .white) | 28 => some (.pawn, .white) | 60 => some (.king, .black) | _ => none
  stm := .white
  wcr := .noRights
  bcr := .noRights
  epFile := none

set_option maxRecDepth 100000 in
example : ((Board.tryFrom codeTables c18ExNullBd).bind (Board.nullMove codeTables)).map (·.stm) = some .black := by
  decide +kernel

/-- white Ke1 in check from a black rook on e8 (black king a8): no null move -/
def c18ExCheckBd : Builder where
  pieces s := match s.val with
    | 4 => some (.king, .white) | 60 => some (.rook, .black) | 56 => some (.king, .black) | _ => none
  stm := .white
  wcr := .noRights
  bcr := .noRights
  epFile := none

set_option maxRecDepth 100000 in
example : (Board.tryFrom codeTables c18ExCheckBd).isSome = true ∧
    (Board.tryFrom codeTables c18ExCheckBd).bind (Board.nullMove codeTables) = none := by
  decide +kernel

end Chess.Props
