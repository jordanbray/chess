import ChessVerif.Proofs.TablesOK
import ChessVerif.Model.Board
import ChessVerif.Lemmas.PawnQuiets
import ChessVerif.Lemmas.Text
/-!
# C16 — board geometry tables and square arithmetic are exact

Part 1: every table generated by the current build of /repo equals its geometric definition in
`Geom` (`between` = squares strictly between two aligned squares, else empty; `line` = the whole
line through two aligned squares; king / knight / pawn attack and push sets by the movement rules;
rank, file, adjacent-file and edge sets; castling squares).  Part 2: pawn pushes with blockers.
Part 3: the square stepping helpers of the model (tied to `square.rs` by the complete T2
correspondence) move one step in the named direction, returning nothing, or wrapping, at the edge.
-/
namespace Chess.Props

theorem C16_tables : TablesOK codeTables := codeTables_ok

/-- `between` as a set: `x ∈ between a b ↔ x` lies strictly between `a` and `b` on a common line -/
theorem C16_between (a b : Sq) : codeTables.between a b = Geom.between a b := codeTables_ok.between a b
theorem C16_line (a b : Sq) : codeTables.line a b = Geom.line a b := codeTables_ok.line a b
theorem C16_king (s : Sq) : codeTables.king s = Geom.king s := codeTables_ok.king s
theorem C16_knight (s : Sq) : codeTables.knight s = Geom.knight s := codeTables_ok.knight s
theorem C16_pawn_attacks (c : Color) (s : Sq) (blockers : BB) :
    Board.pawnAttacks codeTables s c blockers = Geom.pawnAttacks c s &&& blockers := by
  unfold Board.pawnAttacks; rw [codeTables_ok.pawnAttacks]

/-- pawn pushes for EVERY blocker set: single step iff the square ahead is empty, double step only from
the start rank and only through two empty squares -/
theorem C16_pawn_quiets (c : Color) (s : Sq) (blockers : BB) :
    Board.pawnQuiets codeTables s c blockers = Geom.pawnQuiets c s blockers := pawnQuiets_exact codeTables_ok c s blockers

/-- `get_pawn_moves` = attacks on blockers xor quiets -/
theorem C16_pawn_moves (c : Color) (s : Sq) (blockers : BB) :
    Board.pawnMoves codeTables s c blockers = (Geom.pawnAttacks c s &&& blockers) ^^^ Geom.pawnQuiets c s blockers := by
  unfold Board.pawnMoves; rw [C16_pawn_attacks, C16_pawn_quiets]

/-! ### stepping helpers -/

theorem C16_up : ∀ s : Sq, s.up = Geom.step s 0 1 := fun s => Sq.forward_eq_step s .white
theorem C16_down : ∀ s : Sq, s.down = Geom.step s 0 (-1) := fun s => Sq.forward_eq_step s .black
theorem C16_left : ∀ s : Sq, s.left = Geom.step s (-1) 0 := Sq.left_eq_step
theorem C16_right : ∀ s : Sq, s.right = Geom.step s 1 0 := Sq.right_eq_step
theorem C16_forward : ∀ (c : Color) (s : Sq), s.forward c = Geom.step s 0 c.fwd :=
  fun c s => Sq.forward_eq_step s c
theorem C16_backward : ∀ (c : Color) (s : Sq), s.backward c = Geom.step s 0 (-c.fwd) :=
  fun c s => Sq.backward_eq_step s c
theorem C16_uup : ∀ s : Sq, s.uup = Geom.stepWrap s 0 1 := fun s => Sq.uforward_eq_stepWrap s .white
theorem C16_udown : ∀ s : Sq, s.udown = Geom.stepWrap s 0 (-1) := fun s => Sq.uforward_eq_stepWrap s .black
theorem C16_uleft : ∀ s : Sq, s.uleft = Geom.stepWrap s (-1) 0 := Sq.uleft_eq_stepWrap
theorem C16_uright : ∀ s : Sq, s.uright = Geom.stepWrap s 1 0 := Sq.uright_eq_stepWrap
theorem C16_uforward : ∀ (c : Color) (s : Sq), s.uforward c = Geom.stepWrap s 0 c.fwd :=
  fun c s => Sq.uforward_eq_stepWrap s c
theorem C16_ubackward : ∀ (c : Color) (s : Sq), s.ubackward c = Geom.stepWrap s 0 (-c.fwd) :=
  fun c s => Sq.ubackward_eq_stepWrap s c
theorem C16_make_square : ∀ (r f : Fin 8), (mkSq r f).getRank = r ∧ (mkSq r f).getFile = f :=
  fun r f => ⟨getRank_mkSq r f, getFile_mkSq r f⟩
theorem C16_rank_file : ∀ s : Sq, mkSq s.getRank s.getFile = s := mkSq_getRank_getFile

end Chess.Props
