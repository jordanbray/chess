import ChessVerif.Lemmas.Hash
import ChessVerif.CodeTables
import ChessVerif.Proofs.KeyDeps.Chunks
/-!
# C09 — the position hash separates positions that differ in any single component

`Pos.hashOf T p` is the hash as a function of the position (C08 shows `get_hash` equals it).  On the
Zobrist keys generated by the current build of /repo (re-checked by the kernel when they change):
all 793 keys are pairwise distinct and non-zero, and the side key differs from the xor of the two
en-passant keys of every file.  Hence two positions that differ in exactly one component — the
content of one square, the side to move, one side's castling rights, or the en-passant file — have
different hashes.

The statistical clause of the property ("collisions no more frequent than chance among the
positions explored") is not a theorem — with 793 keys in GF(2)^64 collisions exist — it is measured
by the check (`COLL` line: millions of distinct positions hashed per run) and reported as exploration.
-/
namespace Chess.Props

def T := codeTables

/-- all 793 Zobrist keys of the code: 768 piece keys, 8 castle keys, 16 ep keys, side -/
def allKeys : List BB :=
  (List.range 768).map (word Gen.zPieces) ++ (List.range 8).map (word Gen.zCastles) ++
  (List.range 16).map (word Gen.zEp) ++ [BitVec.ofNat 64 Gen.zSide]

def pairwiseNe : List BB → Bool
  | [] => true
  | x :: xs => xs.all (· != x) && pairwiseNe xs

/-- `allKeys` is the key list `Gen.zKeyList` that the translator writes out beside the tables -/
theorem keys_map : KeyDeps.keys.map (BitVec.ofNat 64) = allKeys := by decide +kernel

/-- two keys at list positions `i < j` differ, and their xor is not a key
(`Proofs/KeyDeps/Chunks`, read on `BB`) -/
theorem allKeys_pairwise : allKeys.Pairwise (fun a b => a ≠ b ∧ a ^^^ b ∉ allKeys) :=
  keys_map ▸ KeyDeps.pairwise_ofNat _
    (fun k hk => Nat.le_of_ble_eq_true (List.all_eq_true.mp KeyDeps.keys_lt k hk)) KeyDeps.keys_pairwise

theorem pairwiseNe_of_pairwise : ∀ {l : List BB}, l.Pairwise (· ≠ ·) → pairwiseNe l = true
  | [], _ => rfl
  | x :: xs, h => by
    rw [List.pairwise_cons] at h
    simp only [pairwiseNe, Bool.and_eq_true, List.all_eq_true, bne_iff_ne]
    exact ⟨fun y hy => (h.1 y hy).symm, pairwiseNe_of_pairwise h.2⟩

theorem C09_keys_distinct : pairwiseNe allKeys = true :=
  pairwiseNe_of_pairwise (allKeys_pairwise.imp And.left)
theorem C09_keys_nonzero : allKeys.all (· != 0#64) = true := by decide +kernel

/-- key contributed by the content of a square -/
def keyOf (c : Option (Piece × Color)) (s : Sq) : BB :=
  match c with | some (pc, col) => T.zPiece col pc s | none => 0#64

def contents : List (Option (Piece × Color)) :=
  none :: (allPieces.flatMap fun p => allColors.map fun c => some (p, c))

theorem contents_complete (c : Option (Piece × Color)) : c ∈ contents := by
  rcases c with _ | ⟨p, c⟩
  · simp [contents]
  · cases p <;> cases c <;> simp [contents, allPieces, allColors]

theorem square_keys : (allSq.all fun s => contents.all fun a => contents.all fun b => a == b || keyOf a s != keyOf b s) = true := by
  decide +kernel
theorem side_key : (T.zSide != 0#64 && (List.finRange 8).all fun f => (T.zSide ^^^ T.zEp .white f ^^^ T.zEp .black f) != 0#64) = true := by
  decide +kernel
theorem castle_keys : (allColors.all fun c => CastleRights.all.all fun r => CastleRights.all.all fun r' => r == r' || T.zCastle c r != T.zCastle c r') = true := by
  decide +kernel
theorem ep_keys : (allColors.all fun c => (List.finRange 8).all fun f => T.zEp c f != 0#64 &&
    (List.finRange 8).all fun f' => f == f' || T.zEp c f != T.zEp c f') = true := by
  decide +kernel

theorem keyOf_inj (s : Sq) (a b : Option (Piece × Color)) (h : a ≠ b) : keyOf a s ≠ keyOf b s := by
  have h1 := List.all_eq_true.mp square_keys s (mem_allSq s)
  have h2 := List.all_eq_true.mp h1 a (contents_complete a)
  have h3 := List.all_eq_true.mp h2 b (contents_complete b)
  simp only [Bool.or_eq_true, beq_iff_eq, bne_iff_ne] at h3
  rcases h3 with h3 | h3
  · exact absurd h3 h
  · exact h3

/-- the pieces of `hashOf` -/
def placement (p : Pos) : BB := allSq.foldl (fun h s => h ^^^ keyOf (p.board s) s) 0#64
def epKey (p : Pos) : BB := match p.ep with | some q => T.zEp p.stm.other q.getFile | none => 0#64

theorem hashOf_eq (p : Pos) :
    p.hashOf T = placement p ^^^ epKey p ^^^ T.zCastle .white ⟨p.castleK .white, p.castleQ .white⟩
      ^^^ T.zCastle .black ⟨p.castleK .black, p.castleQ .black⟩ ^^^ (if p.stm = .black then T.zSide else 0#64) := by
  unfold Pos.hashOf placement epKey keyOf
  dsimp only
  congr 5
  funext h s
  cases p.board s with
  | none => simp
  | some pc => rfl

theorem epKey_eq (r : Pos) :
    epKey r = match r.ep.map Sq.getFile with | some f => T.zEp r.stm.other f | none => 0#64 := by
  unfold epKey; cases r.ep <;> rfl

theorem mem_castleRights_all (r : CastleRights) : r ∈ CastleRights.all := by
  rcases r with ⟨a, b⟩; cases a <;> cases b <;> simp [CastleRights.all]

theorem zCastle_inj (c : Color) {r r' : CastleRights} (h : T.zCastle c r = T.zCastle c r') : r = r' := by
  have hk := castle_keys
  simp only [List.all_eq_true, Bool.or_eq_true, beq_iff_eq, bne_iff_ne] at hk
  exact (hk c (by cases c <;> simp [allColors]) r (mem_castleRights_all r) r' (mem_castleRights_all r')).resolve_right
    (not_not_intro h)

/-! In each of (a)–(d) both hashes are split by `hashOf_eq`, `xor5_eq_iff` turns their equality into
the vanishing of the xor of the component differences, the components that agree drop out, and what is
left contradicts one of the key facts above. -/

/-- (a) the content of exactly one square differs -/
theorem C09_one_square (p q : Pos) (s0 : Sq) (hne : p.board s0 ≠ q.board s0)
    (hsame : ∀ s, s ≠ s0 → p.board s = q.board s) (hstm : p.stm = q.stm)
    (hk : p.castleK = q.castleK) (hq : p.castleQ = q.castleQ) (hep : p.ep = q.ep) :
    p.hashOf T ≠ q.hashOf T := by
  have hpl : placement q = placement p ^^^ keyOf (p.board s0) s0 ^^^ keyOf (q.board s0) s0 :=
    foldl_xor_update (fun s => keyOf (p.board s) s) (fun s => keyOf (q.board s) s) allSq 0#64 s0 allSq_nodup
      (mem_allSq s0) (fun s hs => by rw [hsame s hs])
  have he : epKey p = epKey q := by unfold epKey; rw [hep, hstm]
  rw [Ne, hashOf_eq, hashOf_eq, xor5_eq_iff, ← hstm, ← hk, ← hq, ← he, hpl]
  simp only [BitVec.xor_self, BitVec.xor_zero]
  rw [BitVec.xor_assoc, xor_xor_cancel_left, xor_eq_zero_iff]
  exact keyOf_inj s0 _ _ hne

theorem side_white_black (p q : Pos) (hb : p.board = q.board) (hp : p.stm = .white) (hq' : q.stm = .black)
    (hk : p.castleK = q.castleK) (hq : p.castleQ = q.castleQ)
    (hep : p.ep.map Sq.getFile = q.ep.map Sq.getFile) :
    p.hashOf T ≠ q.hashOf T := by
  have hpl : placement p = placement q := by unfold placement; rw [hb]
  have hs := side_key
  simp only [Bool.and_eq_true, bne_iff_ne, List.all_eq_true] at hs
  rw [Ne, hashOf_eq, hashOf_eq, xor5_eq_iff, ← hk, ← hq, hpl, epKey_eq p, epKey_eq q, hep, hp, hq']
  simp only [BitVec.xor_self, BitVec.xor_zero, BitVec.zero_xor, Color.other, if_true, reduceCtorEq, if_false]
  cases q.ep.map Sq.getFile with
  | none => rw [BitVec.xor_self, BitVec.zero_xor]; exact hs.1
  | some f =>
    intro h
    apply hs.2 f (List.mem_finRange f)
    rw [← h]
    ac_rfl

/-- (b) only the side to move differs (same en-passant file, if any) -/
theorem C09_side (p q : Pos) (hb : p.board = q.board) (hstm : p.stm ≠ q.stm)
    (hk : p.castleK = q.castleK) (hq : p.castleQ = q.castleQ)
    (hep : p.ep.map Sq.getFile = q.ep.map Sq.getFile) :
    p.hashOf T ≠ q.hashOf T := by
  cases hp : p.stm <;> cases hq' : q.stm
  · exact absurd (hp.trans hq'.symm) hstm
  · exact side_white_black p q hb hp hq' hk hq hep
  · exact (side_white_black q p hb.symm hq' hp hk.symm hq.symm hep.symm).symm
  · exact absurd (hp.trans hq'.symm) hstm

/-- (c) only one side's castling rights differ -/
theorem C09_rights (p q : Pos) (hb : p.board = q.board) (hstm : p.stm = q.stm) (hep : p.ep = q.ep)
    (c : Color) (hc : (p.castleK c, p.castleQ c) ≠ (q.castleK c, q.castleQ c))
    (ho : p.castleK c.other = q.castleK c.other ∧ p.castleQ c.other = q.castleQ c.other) :
    p.hashOf T ≠ q.hashOf T := by
  have hpl : placement p = placement q := by unfold placement; rw [hb]
  have he : epKey p = epKey q := by unfold epKey; rw [hep, hstm]
  rw [Ne, hashOf_eq, hashOf_eq, xor5_eq_iff, hpl, he, hstm]
  simp only [BitVec.xor_self, BitVec.xor_zero, BitVec.zero_xor]
  intro h
  -- the other colour's rights agree, so the keys of `c`'s rights agree
  cases c with
  | white =>
    simp only [Color.other] at ho
    rw [ho.1, ho.2, BitVec.xor_self, BitVec.xor_zero, xor_eq_zero_iff] at h
    exact hc (congrArg (fun r => (r.ks, r.qs)) (zCastle_inj _ h))
  | black =>
    simp only [Color.other] at ho
    rw [ho.1, ho.2, BitVec.xor_self, BitVec.zero_xor, xor_eq_zero_iff] at h
    exact hc (congrArg (fun r => (r.ks, r.qs)) (zCastle_inj _ h))

/-- (d) only the en-passant file differs -/
theorem C09_ep_file (p q : Pos) (hb : p.board = q.board) (hstm : p.stm = q.stm)
    (hk : p.castleK = q.castleK) (hq : p.castleQ = q.castleQ)
    (hep : p.ep.map Sq.getFile ≠ q.ep.map Sq.getFile) :
    p.hashOf T ≠ q.hashOf T := by
  have hpl : placement p = placement q := by unfold placement; rw [hb]
  rw [Ne, hashOf_eq, hashOf_eq, xor5_eq_iff, hpl, ← hk, ← hq, hstm, epKey_eq p, epKey_eq q, hstm]
  simp only [BitVec.xor_self, BitVec.xor_zero, BitVec.zero_xor, xor_eq_zero_iff]
  intro h
  have he := ep_keys
  simp only [List.all_eq_true, Bool.and_eq_true, Bool.or_eq_true, beq_iff_eq, bne_iff_ne] at he
  have hcol : ∀ c : Color, c ∈ allColors := by intro c; cases c <;> simp [allColors]
  cases hpf : p.ep.map Sq.getFile with
  | none =>
    cases hqf : q.ep.map Sq.getFile with
    | none => rw [hpf, hqf] at hep; exact hep rfl
    | some g =>
      rw [hpf, hqf] at h
      exact (he q.stm.other (hcol _) g (List.mem_finRange g)).1 h.symm
  | some f =>
    cases hqf : q.ep.map Sq.getFile with
    | none =>
      rw [hpf, hqf] at h
      exact (he q.stm.other (hcol _) f (List.mem_finRange f)).1 h
    | some g =>
      rw [hpf, hqf] at h hep
      rcases (he q.stm.other (hcol _) f (List.mem_finRange f)).2 g (List.mem_finRange g) with h1 | h1
      · exact hep (by rw [h1])
      · exact h1 h

/-- the side key of the current build is not zero -/
example : T.zSide ≠ 0#64 := by
  have := side_key
  simp only [Bool.and_eq_true, bne_iff_ne] at this
  exact this.1

end Chess.Props
