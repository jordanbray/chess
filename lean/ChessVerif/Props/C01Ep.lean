import ChessVerif.Lemmas.EnPassant
import ChessVerif.Proofs.TablesOK
/-!
# C01 (en-passant part) — the en-passant entries of `PawnType::legals` are exactly the legal
en-passant captures, including captures that would expose the king along a rank or a diagonal

For every table set with `TablesOK`, every board with the structural invariant `Struct`, `p = b.abs` a
`Valid` position (the mover's king is then unique: `KingMoves.oneKing_of_valid`), `k = b.kingSquare b.stm`:

* `C01Ep_source_iff` — the sources `rank(ep) & adjacent_files(ep) & my pawns`, with destination
  `ep.uforward(stm)` and no promotion, are exactly the pseudo-legal en-passant captures;
* `C01Ep_leapers_do_not_check` — an enemy knight, pawn or king that attacks the mover's king is the pawn
  that has just made the double step (so `legal_ep_move` may ignore them: that pawn is captured);
* `C01Ep_legalEpMove_iff` — `legal_ep_move(board, src, dest) = true` iff the capture is legal;
* `C01Ep_entry_iff`, `C01Ep_section_iff` — the en-passant disjunct of `Entries.IsMove` is "legal and an
  en-passant capture";
* `C01Ep_noEpClash` — the hypothesis `NoEpClash` of `C01S_legalMoves_nodup` / `C01S_enumerate_apart`.

Which clauses of `Valid` are used: only `epValid` (marked square holds an enemy pawn; rank clause; the
square passed over is empty; with the pawn put back the mover was not in check) and "exactly one king of
the mover".  The clause "the side not to move is not in check" is **not** needed (adjacent kings are
already excluded by the predecessor clause of `epValid`).  The statements of `Lemmas/EnPassant.lean` take
`epValid b.abs = true` and `KingMoves.OneKing b` instead of `Valid`.

Without `epValid` the statements fail: with an en-passant mark whose pawn stands on the mover's seventh
rank the specification admits the capture only with a promotion piece while the code emits it without;
and with a mark that did not arise from a double step (an enemy knight already giving check) the code,
which looks at sliders only, answers `true` for a capture that leaves the king in check.
-/
namespace Chess.Props

open Chess.EnPassant

/-- en-passant sources + destination + no promotion = pseudo-legal en-passant capture -/
theorem C01Ep_source_iff {T : Tables} (hT : TablesOK T) {b : Board} (hs : Struct b)
    (hv : Valid b.abs = true) {q : Sq} (hq : b.ep = some q) (m : Move) :
    ((Entries.epSources T b q).getLsbD m.src.val = true ∧ m.dst = Entries.epDest b q ∧ m.promo = none) ↔
      (pseudoLegal b.abs m = true ∧ isEnPassant b.abs m = true) :=
  ep_source_iff hT hs ((Closure.valid_iff _).mp hv).ep hq m

/-- in a valid position with en-passant mark `q`, an enemy knight, pawn or king attacking the mover's
king is the pawn on `q` -/
theorem C01Ep_leapers_do_not_check {p : Pos} (hv : Valid p = true) {q k : Sq} (hq : p.ep = some q)
    (hk : kingSq? p p.stm = some k) {x : Sq} (hx : p.colorAt x = some p.stm.other)
    (hl : PinCheck.leaperAtt (p.board x) x k = true) : x = q :=
  leapers_do_not_check_valid hv hq hk hx hl

/-- `legal_ep_move` is exact on pseudo-legal en-passant captures -/
theorem C01Ep_legalEpMove_iff {T : Tables} (hT : TablesOK T) {b : Board} (hs : Struct b)
    (hv : Valid b.abs = true) {m : Move} (hpl : pseudoLegal b.abs m = true)
    (hep : isEnPassant b.abs m = true) :
    MoveGen.legalEpMove T b m.src m.dst = some true ↔ legal b.abs m = true :=
  legalEpMove_iff hT hs (KingMoves.oneKing_of_valid hs hv) ((Closure.valid_iff _).mp hv).ep hpl hep

/-- the en-passant entry for the mark `q`: generated iff legal -/
theorem C01Ep_entry_iff {T : Tables} (hT : TablesOK T) {b : Board} (hs : Struct b)
    (hv : Valid b.abs = true) {q : Sq} (hq : b.ep = some q) (m : Move) :
    ((Entries.epSources T b q).getLsbD m.src.val = true ∧
        MoveGen.legalEpMove T b m.src (Entries.epDest b q) = some true ∧
        m.dst = Entries.epDest b q ∧ m.promo = none) ↔
      (legal b.abs m = true ∧ isEnPassant b.abs m = true) :=
  ep_entry_iff hT hs (KingMoves.oneKing_of_valid hs hv) ((Closure.valid_iff _).mp hv).ep hq m

/-- the en-passant disjunct of `Entries.IsMove`, as a whole -/
theorem C01Ep_section_iff {T : Tables} (hT : TablesOK T) {b : Board} (hs : Struct b)
    (hv : Valid b.abs = true) (m : Move) :
    (∃ epSq : Sq, b.ep = some epSq ∧ (Entries.epSources T b epSq).getLsbD m.src.val = true ∧
        MoveGen.legalEpMove T b m.src (Entries.epDest b epSq) = some true ∧
        m.dst = Entries.epDest b epSq ∧ m.promo = none) ↔
      (legal b.abs m = true ∧ isEnPassant b.abs m = true) :=
  ep_section_iff hT hs (KingMoves.oneKing_of_valid hs hv) ((Closure.valid_iff _).mp hv).ep m

/-- the en-passant destination is never an ordinary destination of the capturing pawn -/
theorem C01Ep_noEpClash {T : Tables} (hT : TablesOK T) {b : Board} (hs : Struct b)
    (hv : Valid b.abs = true) (ic : Bool) : Entries.NoEpClash T b ic :=
  noEpClash hT hs ((Closure.valid_iff _).mp hv).ep ic

/-! ### non-vacuity -/

/-- White: Ka5, Pb5; Black: Ke8, Rh5, Pc5 (just played c7-c5, so `ep = some c5`); White to move.
`b5xc6 e.p.` is pseudo-legal but removes both pawns from the fifth rank and exposes the king to the
rook. -/
def exEpPinBoard : Board :=
  { pawns := 0x0000000600000000#64, knights := 0#64, bishops := 0#64, rooks := 0x0000008000000000#64,
    queens := 0#64, kings := 0x1000000100000000#64, white := 0x0000000300000000#64,
    black := 0x1000008400000000#64, combined := 0x1000008700000000#64, stm := .white,
    wcr := .noRights, bcr := .noRights, pinned := 0#64, checkers := 0#64, hash := 0#64,
    ep := some ⟨34, by decide⟩ }

/-- the same without the rook: the capture is legal -/
def exEpFreeBoard : Board :=
  { exEpPinBoard with rooks := 0#64, black := 0x1000000400000000#64, combined := 0x1000000700000000#64 }

theorem exEpPinBoard_struct : Struct exEpPinBoard :=
  Struct.of_eqs' (by intro x y h; cases x <;> cases y <;> first | exact absurd rfl h | decide)
    (by decide) (by decide) (by decide)

theorem exEpFreeBoard_struct : Struct exEpFreeBoard :=
  Struct.of_eqs' (by intro x y h; cases x <;> cases y <;> first | exact absurd rfl h | decide)
    (by decide) (by decide) (by decide)

set_option maxRecDepth 100000 in
/-- the hypotheses hold on a position where the capture is pseudo-legal and illegal (horizontal
exposure), and the code says `false` -/
example : TablesOK codeTables ∧ Struct exEpPinBoard ∧ Valid exEpPinBoard.abs = true ∧
    exEpPinBoard.ep = some ⟨34, by decide⟩ ∧
    pseudoLegal exEpPinBoard.abs ⟨33, 42, none⟩ = true ∧ isEnPassant exEpPinBoard.abs ⟨33, 42, none⟩ = true ∧
    MoveGen.legalEpMove codeTables exEpPinBoard 33 42 = some false ∧
    legal exEpPinBoard.abs ⟨33, 42, none⟩ = false := by
  refine ⟨codeTables_ok, exEpPinBoard_struct, ?_, rfl, ?_, ?_, ?_, ?_⟩ <;> decide +kernel

set_option maxRecDepth 100000 in
/-- … and on a position where it is legal, and the code says `true` -/
example : Struct exEpFreeBoard ∧ Valid exEpFreeBoard.abs = true ∧
    (Entries.epSources codeTables exEpFreeBoard ⟨34, by decide⟩).getLsbD (33 : Sq).val = true ∧
    Entries.epDest exEpFreeBoard ⟨34, by decide⟩ = 42 ∧
    MoveGen.legalEpMove codeTables exEpFreeBoard 33 42 = some true ∧
    legal exEpFreeBoard.abs ⟨33, 42, none⟩ = true := by
  refine ⟨exEpFreeBoard_struct, ?_, ?_, ?_, ?_, ?_⟩ <;> decide +kernel

end Chess.Props
