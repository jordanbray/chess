import ChessVerif.Lemmas.Sym
/-!
# C17 — colour/rank mirror and file flip are symmetries of the rules

"Swapping the colours and flipping the board top to bottom (side to move, castling rights and
en-passant state swapped accordingly) maps the legal moves, the status, the check and pin sets and
every successor position of a position onto those of its mirror image.  For positions without
castling rights the same holds for flipping the board left to right."

Everything here is about the FIDE specification `Spec/Rules.lean` (`Pos`, `legal`, `apply`, `status`,
`checkerSq`, `pinnedSq`, `Valid`, `norm`) and the maps `Sq.mirror`, `Move.mirror`, `Pos.mirror`,
`Sq.flipFile`, `Move.flipFile`, `Pos.flipFiles` defined there.  All statements hold for ALL positions
(no validity assumption) except:

* whatever looks up the king (`kingSq?`, `inCheck`, hence `legal`, `legalMoves`, `status`,
  `checkerSq`, `pinnedSq`) needs "at most one king of the colour concerned",
  `count p (· == (.king, c)) ≤ 1`, because `kingSq?` returns the first king in a1..h8 order;
  `C17_mirror_inCheck_counterexample` shows the hypothesis cannot be dropped.  `Valid p` implies it
  (`C17_valid_unique_king`), and `Valid` itself is mirror-invariant without any hypothesis;
* the file flip needs "no castling rights" (`NoCastle p`), and `apply` commutes with the file flip
  only for moves that are not a two-file king move (`isCastle p m = false`; every pseudo-legal move
  of a position without castling rights is such): `apply` relocates a rook to file d/f for any
  two-file king move, which is not left/right symmetric (`C17_flip_apply_counterexample`).
-/
namespace Chess.Props
open Chess.Sym (flip_pos mirror_dir flip_dir)

/-- the hypothesis used for king look-ups: at most one king of colour `c` -/
abbrev OneKing (p : Pos) (c : Color) : Prop := count p (· == (.king, c)) ≤ 1

theorem C17_valid_unique_king {p : Pos} (h : Valid p = true) (c : Color) : OneKing p c :=
  Nat.le_of_eq (((Closure.valid_iff p).mp h).king c)

/-! ## geometry -/

theorem C17_mirror_involutive (s : Sq) : s.mirror.mirror = s := Sq.mirror_mirror s
theorem C17_mirror_file (s : Sq) : s.mirror.file = s.file := Sq.mirror_file s
theorem C17_mirror_rank (s : Sq) : s.mirror.rank = 7 - s.rank := Sq.mirror_rank s
theorem C17_mirror_move_involutive (m : Move) : m.mirror.mirror = m := Sym.mirror.mv_mv m
theorem C17_mirror_strictlyBetween (a x b : Sq) :
    strictlyBetween a.mirror x.mirror b.mirror = strictlyBetween a x b := Sym.mirror.strictlyBetween_sym a x b
/-- rays transform with the direction reflected: n↔s, ne↔se, nw↔sw -/
theorem C17_mirror_onRay (a : Sq) (u : Dir) (n : Nat) (b : Sq) :
    onRay a.mirror u.mirror n b.mirror = onRay a u n b := by
  rw [mirror_dir]; exact Sym.mirror.onRay_sym a u n b
theorem C17_mirror_aligned (ds : List Dir) (hds : ds = rookDirs ∨ ds = bishopDirs ∨ ds = allDirs) (a b : Sq) :
    aligned ds a.mirror b.mirror = aligned ds a b :=
  Sym.mirror.aligned_sym (Sym.dirsClosed_of hds) a b

theorem C17_flip_involutive (s : Sq) : s.flipFile.flipFile = s := Sq.flipFile_flipFile s
theorem C17_flip_file (s : Sq) : s.flipFile.file = 7 - s.file := Sq.flipFile_file s
theorem C17_flip_rank (s : Sq) : s.flipFile.rank = s.rank := Sq.flipFile_rank s
theorem C17_flip_move_involutive (m : Move) : m.flipFile.flipFile = m := Sym.flip.mv_mv m
theorem C17_flip_strictlyBetween (a x b : Sq) :
    strictlyBetween a.flipFile x.flipFile b.flipFile = strictlyBetween a x b := Sym.flip.strictlyBetween_sym a x b
/-- rays transform with the direction reflected: e↔w, ne↔nw, se↔sw -/
theorem C17_flip_onRay (a : Sq) (u : Dir) (n : Nat) (b : Sq) :
    onRay a.flipFile u.flipFile n b.flipFile = onRay a u n b := by
  rw [flip_dir]; exact Sym.flip.onRay_sym a u n b
theorem C17_flip_aligned (ds : List Dir) (hds : ds = rookDirs ∨ ds = bishopDirs ∨ ds = allDirs) (a b : Sq) :
    aligned ds a.flipFile b.flipFile = aligned ds a b :=
  Sym.flip.aligned_sym (Sym.dirsClosed_of hds) a b

/-- quantifying over all squares is insensitive to the mirror (it permutes `allSq`) -/
theorem C17_any_mirror (f : Sq → Bool) : allSq.any f = allSq.any fun s => f s.mirror := Sym.mirror.any_sym f
theorem C17_all_mirror (f : Sq → Bool) : allSq.all f = allSq.all fun s => f s.mirror := Sym.mirror.all_sym f

/-! ## colour / rank mirror -/

theorem C17_mirror_pathClear (p : Pos) (a b : Sq) : pathClear p.mirror a.mirror b.mirror = pathClear p a b :=
  Sym.mirror.pathClear_sym p a b

theorem C17_mirror_attacks (p : Pos) (a b : Sq) : attacks p.mirror a.mirror b.mirror = attacks p a b :=
  Sym.mirror.attacks_sym p a b

theorem C17_mirror_attackedBy (p : Pos) (c : Color) (t : Sq) :
    attackedBy p.mirror c.other t.mirror = attackedBy p c t :=
  Sym.mirror.attackedBy_sym p c t

theorem C17_mirror_kingSq (p : Pos) (c : Color) (h1 : OneKing p c) :
    kingSq? p.mirror c.other = (kingSq? p c).map Sq.mirror :=
  Sym.mirror.kingSq?_sym p c (UniqueKing.of_count h1)

theorem C17_mirror_inCheck (p : Pos) (c : Color) (h1 : OneKing p c) : inCheck p.mirror c.other = inCheck p c :=
  Sym.mirror.inCheck_sym p c (UniqueKing.of_count h1)

theorem C17_mirror_pseudoLegal (p : Pos) (m : Move) : pseudoLegal p.mirror m.mirror = pseudoLegal p m :=
  Sym.mirror.pseudoLegal_sym p (Sym.ok_mirror p) m

/-- every successor position: the successor of the mirror image is the mirror image of the successor
(equality of positions, all five fields) -/
theorem C17_mirror_apply (p : Pos) (m : Move) : (apply p m).mirror = apply p.mirror m.mirror :=
  Sym.mirror.apply_sym p (Sym.ok_mirror p) m nofun

theorem C17_mirror_legal (p : Pos) (h1 : OneKing p p.stm) (m : Move) : legal p.mirror m.mirror = legal p m :=
  Sym.mirror.legal_sym p (Sym.ok_mirror p) h1 m

theorem C17_mirror_legalMoves (p : Pos) (h1 : OneKing p p.stm) (m : Move) :
    m ∈ legalMoves p ↔ m.mirror ∈ legalMoves p.mirror :=
  (Sym.mirror.mem_legalMoves_sym p (Sym.ok_mirror p) h1 m).symm

/-- the legal moves of the mirror image are exactly the mirror images of the legal moves -/
theorem C17_mirror_legalMoves' (p : Pos) (h1 : OneKing p p.stm) (m' : Move) :
    m' ∈ legalMoves p.mirror ↔ ∃ m ∈ legalMoves p, m.mirror = m' :=
  Sym.mirror.mem_legalMoves_image p (Sym.ok_mirror p) h1 m'

theorem C17_mirror_status (p : Pos) (h1 : OneKing p p.stm) : status p.mirror = status p :=
  Sym.mirror.status_sym p (Sym.ok_mirror p) h1

theorem C17_mirror_checkers (p : Pos) (h1 : OneKing p p.stm) (x : Sq) : checkerSq p.mirror x.mirror = checkerSq p x :=
  Sym.mirror.checkerSq_sym p (UniqueKing.of_count h1) x

theorem C17_mirror_pinned (p : Pos) (h1 : OneKing p p.stm) (y : Sq) : pinnedSq p.mirror y.mirror = pinnedSq p y :=
  Sym.mirror.pinnedSq_sym p (UniqueKing.of_count h1) y

theorem C17_mirror_valid (p : Pos) : Valid p.mirror = Valid p :=
  Sym.mirror.valid_sym p (Sym.ok_mirror p)

theorem C17_mirror_norm (p : Pos) : (norm p).mirror = norm p.mirror :=
  Sym.mirror.norm_sym p

/-- the property as quoted, for valid positions: legal moves, status, checkers, pinned men and successor
positions of `p.mirror` are the mirror images of those of `p`, and `p.mirror` is valid again -/
theorem C17_mirror (p : Pos) (hv : Valid p = true) :
    Valid p.mirror = true ∧
    (∀ m, m ∈ legalMoves p ↔ m.mirror ∈ legalMoves p.mirror) ∧
    status p.mirror = status p ∧
    inCheck p.mirror p.mirror.stm = inCheck p p.stm ∧
    (∀ x, checkerSq p.mirror x.mirror = checkerSq p x) ∧
    (∀ y, pinnedSq p.mirror y.mirror = pinnedSq p y) ∧
    (∀ m, (apply p m).mirror = apply p.mirror m.mirror) := by
  have h1 := C17_valid_unique_king hv p.stm
  exact ⟨by rw [C17_mirror_valid]; exact hv, C17_mirror_legalMoves p h1, C17_mirror_status p h1,
    C17_mirror_inCheck p p.stm h1, C17_mirror_checkers p h1, C17_mirror_pinned p h1, C17_mirror_apply p⟩

/-! ## file flip, for positions without castling rights -/

theorem C17_flip_pathClear (p : Pos) (a b : Sq) : pathClear p.flipFiles a.flipFile b.flipFile = pathClear p a b := by
  rw [flip_pos]; exact Sym.flip.pathClear_sym p a b

theorem C17_flip_attacks (p : Pos) (a b : Sq) : attacks p.flipFiles a.flipFile b.flipFile = attacks p a b := by
  rw [flip_pos]; exact Sym.flip.attacks_sym p a b

theorem C17_flip_attackedBy (p : Pos) (c : Color) (t : Sq) : attackedBy p.flipFiles c t.flipFile = attackedBy p c t := by
  rw [flip_pos]; exact Sym.flip.attackedBy_sym p c t

theorem C17_flip_kingSq (p : Pos) (c : Color) (h1 : OneKing p c) :
    kingSq? p.flipFiles c = (kingSq? p c).map Sq.flipFile := by
  rw [flip_pos]; exact Sym.flip.kingSq?_sym p c (UniqueKing.of_count h1)

theorem C17_flip_inCheck (p : Pos) (c : Color) (h1 : OneKing p c) : inCheck p.flipFiles c = inCheck p c := by
  rw [flip_pos]; exact Sym.flip.inCheck_sym p c (UniqueKing.of_count h1)

theorem C17_flip_noCastle (p : Pos) (hn : NoCastle p) : NoCastle p.flipFiles := hn

theorem C17_flip_pseudoLegal (p : Pos) (hn : NoCastle p) (m : Move) :
    pseudoLegal p.flipFiles m.flipFile = pseudoLegal p m := by
  rw [flip_pos]; exact Sym.flip.pseudoLegal_sym p (Sym.ok_flip hn) m

/-- successor positions, for every move that is not a two-file king move -/
theorem C17_flip_apply (p : Pos) (hn : NoCastle p) (m : Move) (hm : isCastle p m = false) :
    (apply p m).flipFiles = apply p.flipFiles m.flipFile := by
  rw [flip_pos, flip_pos]
  exact Sym.flip.apply_sym p (Sym.ok_flip hn) m (fun _ => hm)

/-- in particular for every pseudo-legal (hence every legal) move -/
theorem C17_flip_apply_pseudoLegal (p : Pos) (hn : NoCastle p) (m : Move) (hm : pseudoLegal p m = true) :
    (apply p m).flipFiles = apply p.flipFiles m.flipFile :=
  C17_flip_apply p hn m (pseudoLegal_not_castle hn hm)

/-- successors of positions without castling rights have no castling rights -/
theorem C17_apply_noCastle (p : Pos) (hn : NoCastle p) (m : Move) : NoCastle (apply p m) := by
  intro c
  rw [Closure.apply_castleK, Closure.apply_castleQ, (hn c).1, (hn c).2]
  exact ⟨rfl, rfl⟩

theorem C17_flip_legal (p : Pos) (hn : NoCastle p) (h1 : OneKing p p.stm) (m : Move) :
    legal p.flipFiles m.flipFile = legal p m := by
  rw [flip_pos]; exact Sym.flip.legal_sym p (Sym.ok_flip hn) h1 m

theorem C17_flip_legalMoves (p : Pos) (hn : NoCastle p) (h1 : OneKing p p.stm) (m : Move) :
    m ∈ legalMoves p ↔ m.flipFile ∈ legalMoves p.flipFiles := by
  rw [flip_pos]; exact (Sym.flip.mem_legalMoves_sym p (Sym.ok_flip hn) h1 m).symm

theorem C17_flip_legalMoves' (p : Pos) (hn : NoCastle p) (h1 : OneKing p p.stm) (m' : Move) :
    m' ∈ legalMoves p.flipFiles ↔ ∃ m ∈ legalMoves p, m.flipFile = m' := by
  rw [flip_pos]; exact Sym.flip.mem_legalMoves_image p (Sym.ok_flip hn) h1 m'

theorem C17_flip_status (p : Pos) (hn : NoCastle p) (h1 : OneKing p p.stm) : status p.flipFiles = status p := by
  rw [flip_pos]; exact Sym.flip.status_sym p (Sym.ok_flip hn) h1

theorem C17_flip_checkers (p : Pos) (h1 : OneKing p p.stm) (x : Sq) :
    checkerSq p.flipFiles x.flipFile = checkerSq p x := by
  rw [flip_pos]; exact Sym.flip.checkerSq_sym p (UniqueKing.of_count h1) x

theorem C17_flip_pinned (p : Pos) (h1 : OneKing p p.stm) (y : Sq) :
    pinnedSq p.flipFiles y.flipFile = pinnedSq p y := by
  rw [flip_pos]; exact Sym.flip.pinnedSq_sym p (UniqueKing.of_count h1) y

theorem C17_flip_valid (p : Pos) (hn : NoCastle p) : Valid p.flipFiles = Valid p := by
  rw [flip_pos]; exact Sym.flip.valid_sym p (Sym.ok_flip hn)

theorem C17_flip_norm (p : Pos) : (norm p).flipFiles = norm p.flipFiles := by
  rw [flip_pos, flip_pos]; exact Sym.flip.norm_sym p

/-- the property as quoted, for valid positions without castling rights -/
theorem C17_flip (p : Pos) (hv : Valid p = true) (hn : NoCastle p) :
    Valid p.flipFiles = true ∧ NoCastle p.flipFiles ∧
    (∀ m, m ∈ legalMoves p ↔ m.flipFile ∈ legalMoves p.flipFiles) ∧
    status p.flipFiles = status p ∧
    inCheck p.flipFiles p.flipFiles.stm = inCheck p p.stm ∧
    (∀ x, checkerSq p.flipFiles x.flipFile = checkerSq p x) ∧
    (∀ y, pinnedSq p.flipFiles y.flipFile = pinnedSq p y) ∧
    (∀ m, m ∈ legalMoves p → (apply p m).flipFiles = apply p.flipFiles m.flipFile) := by
  have h1 := C17_valid_unique_king hv p.stm
  refine ⟨by rw [C17_flip_valid p hn]; exact hv, hn, C17_flip_legalMoves p hn h1, C17_flip_status p hn h1,
    C17_flip_inCheck p p.stm h1, C17_flip_checkers p h1, C17_flip_pinned p h1, ?_⟩
  intro m hm
  unfold legalMoves legal at hm
  rw [List.mem_filter, Bool.and_eq_true] at hm
  exact C17_flip_apply_pseudoLegal p hn m hm.2.1

/-! ## the hypotheses are satisfiable, and cannot be dropped -/

/-- K+R+P v K+P, White to move, White may still castle king side -/
def exPos : Pos where
  board s := match s.val with
    | 4 => some (.king, .white) | 7 => some (.rook, .white) | 12 => some (.pawn, .white)
    | 60 => some (.king, .black) | 51 => some (.pawn, .black) | _ => none
  stm := .white
  castleK c := c == .white
  castleQ _ := false
  ep := none
/-- the same men without castling rights -/
def exPosNC : Pos := { exPos with castleK := fun _ => false }

example : Valid exPos = true := by decide +kernel
example : OneKing exPos exPos.stm := by decide +kernel
example : Valid exPosNC = true ∧ NoCastle exPosNC := ⟨by decide +kernel, fun _ => ⟨rfl, rfl⟩⟩
example : OneKing exPosNC exPosNC.stm := by decide +kernel
/-- castling e1g1 is legal in `exPos`, and its mirror image e8g8 is legal in the mirror image -/
example : legal exPos ⟨4, 6, none⟩ = true ∧ legal exPos.mirror ⟨60, 62, none⟩ = true := by decide +kernel
example : isCastle exPosNC ⟨12, 28, none⟩ = false ∧ pseudoLegal exPosNC ⟨12, 28, none⟩ = true := by decide +kernel

/-- two white kings a1, a8 and a black rook h1: White "is in check" (first king a1), but in the mirror
image the first black king is the mirror image of a8, which is not attacked -/
def twoKings : Pos where
  board s := match s.val with
    | 0 => some (.king, .white) | 56 => some (.king, .white) | 7 => some (.rook, .black) | _ => none
  stm := .white
  castleK _ := false
  castleQ _ := false
  ep := none

theorem C17_mirror_inCheck_counterexample :
    inCheck twoKings .white = true ∧ inCheck twoKings.mirror Color.white.other = false := by decide +kernel

/-- a lone king "moving" e1–g1 without castling rights (not pseudo-legal): `apply` puts a rook on f1;
flipped, the king goes d1–b1 and the rook would land on d1 (file 3), the king's origin, not on c1 -/
def loneKing : Pos where
  board s := match s.val with | 4 => some (.king, .white) | 60 => some (.king, .black) | _ => none
  stm := .white
  castleK _ := false
  castleQ _ := false
  ep := none

theorem C17_flip_apply_counterexample :
    NoCastle loneKing ∧ pseudoLegal loneKing ⟨4, 6, none⟩ = false ∧
    (apply loneKing ⟨4, 6, none⟩).flipFiles.board 2 = some (.rook, .white) ∧
    (apply loneKing.flipFiles (Move.flipFile ⟨4, 6, none⟩)).board 2 = none := by
  refine ⟨fun _ => ⟨rfl, rfl⟩, ?_, ?_, ?_⟩ <;> decide +kernel

end Chess.Props
