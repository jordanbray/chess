import ChessVerif.Lemmas.StdFen
import ChessVerif.Props.C06
import ChessVerif.Props.C01
/-!
# C06 — the FEN of an independent standard writer parses to the same position

`Spec.stdFen p half full` (`ChessVerif/Spec/StdFen.lean`) is a standard FEN writer on the
specification's positions, written without the Model (own run-length coder for the placement field;
`Lemmas/StdFen.lean` proves it produces the same rank texts as the Model's `showRank`).  It records the
en-passant target square after EVERY double push and prints arbitrary counters.

* `C06_std_parse_builder` — `BoardBuilder::from_str` reads that text as the builder state of `p`
  (it ignores the counters and keeps only the file of the en-passant square);
* `C06_std_parse` — for a valid `p`, `Board::from_str` accepts it and the board holds `p` (en-passant
  mark under the library's recording policy `norm`);
* `C06_std_decode` — the text is a well-formed standard FEN describing `p`, en-passant mark included
  (independent decoder `Fen.decode`).

`EpRankOK p` : the en-passant mark, if any, is on the fourth rank of the side that just moved
(`q.rank = pawnRank + 2 * fwd`); it is a clause of `Valid`.
-/
namespace Chess.Props
open Chess Chess.Spec Chess.GameExamples

/-- (a) `BoardBuilder::from_str` on the standard writer's text: the builder state of `p`, component by
component (men compared on every square), for all counters -/
theorem C06_std_parse_builder (p : Pos) (half full : Nat)
    (h : ∀ q, p.ep = some q → q.rank = p.stm.other.pawnRank + 2 * p.stm.other.fwd) :
    ∃ bd', parseBuilder (stdFen p half full) = .ok bd' ∧ (∀ s, bd'.pieces s = p.board s) ∧
      bd'.stm = p.stm ∧ bd'.wcr = ⟨p.castleK .white, p.castleQ .white⟩ ∧
      bd'.bcr = ⟨p.castleK .black, p.castleQ .black⟩ ∧ bd'.epFile = p.ep.map Sq.getFile :=
  parseBuilder_of_fields p.toBuilder _ _ (by
    rw [stdFen_eq p half full h, splitSpace_fenText _ _ _ _ (repr_no_space half) (repr_no_space full)])

/-- (a') the same as an equation (function extensionality on the piece map) -/
theorem C06_std_parse_builder_eq (p : Pos) (half full : Nat)
    (h : ∀ q, p.ep = some q → q.rank = p.stm.other.pawnRank + 2 * p.stm.other.fwd) :
    parseBuilder (stdFen p half full) = .ok p.toBuilder := by
  obtain ⟨bd', h0, h1, h2, h3, h4, h5⟩ := C06_std_parse_builder p half full h
  rw [h0, Builder.ext_pointwise (b := p.toBuilder) h1 h2 h3 h4 h5]

/-- `Board::try_from` depends on the builder state only through its five components -/
theorem C06_tryFrom_congr (T : Tables) (a b : Builder) (hp : ∀ s, a.pieces s = b.pieces s)
    (hs : a.stm = b.stm) (hw : a.wcr = b.wcr) (hb : a.bcr = b.bcr) (he : a.epFile = b.epFile) :
    Board.tryFrom T a = Board.tryFrom T b := by
  rw [Builder.ext_pointwise hp hs hw hb he]

/-- (b) for every valid position and all counters, `Board::from_str` accepts the standard writer's
text, returns the very board `try_from` builds for the position, and that board holds the position
(en-passant mark under the recording policy `norm`) -/
theorem C06_std_parse (T : Tables) (hT : TablesOK T) (p : Pos) (hv : Valid p = true) (half full : Nat) :
    ∃ b, parseBoard T (stdFen p half full) = .ok b ∧ Board.tryFrom T p.toBuilder = some b ∧
      b.abs = norm p := by
  obtain ⟨b, ht, habs, _⟩ := C01_good_of_valid_pos (T := T) hT hv
  refine ⟨b, ?_, ht, habs⟩
  unfold parseBoard
  rw [C06_std_parse_builder_eq p half full fun q hq => (Valid_epSane hv q hq).2.1]
  simp only [ht]

/-- (c) the standard writer's text is a well-formed standard six-field FEN (accepted by the independent
decoder) describing `p`, the en-passant mark included -/
theorem C06_std_decode (p : Pos) (half full : Nat)
    (h : ∀ q, p.ep = some q → q.rank = p.stm.other.pawnRank + 2 * p.stm.other.fwd) :
    ∃ q' : Pos, Fen.decode (stdFen p half full) = some q' ∧ (∀ s, q'.board s = p.board s) ∧
      q'.stm = p.stm ∧ (∀ c, q'.castleK c = p.castleK c) ∧ (∀ c, q'.castleQ c = p.castleQ c) ∧
      q'.ep = p.ep := by
  obtain ⟨q, hd, h1, h2, h3, h4, h5, h6, h7⟩ :=
    decode_fenText p.toBuilder _ _ (repr_no_space half) (repr_no_space full)
      ⟨repr_isNat half, repr_isNat full⟩
  rw [← stdFen_eq p half full h] at hd
  exact ⟨q, hd, h1, h2, fun c => by cases c <;> assumption, fun c => by cases c <;> assumption,
    h7.trans (toBuilder_getEnPassant_of_rank p h)⟩

/-- the placement field of the standard writer, produced by its own run-length coder, is rank by rank
the text of the Model's `showRank` -/
theorem C06_std_placement (board : Sq → Option (Piece × Color)) (r : Fin 8) :
    rle (rankRow board r) 0 = showRank board r := rle_rankRow board r

/-! ### non-vacuity: the position after 1. e4 -/

/-- the position after 1. e4 as the rules give it: mark on e4, no black pawn beside it -/
def afterE4 : Pos := apply startBoard.abs ⟨12, 28, none⟩

theorem afterE4_valid : Valid afterE4 = true := by decide +kernel

example : afterE4.ep = some 28 := by decide
example : (norm afterE4).ep = none := by decide +kernel

set_option maxRecDepth 100000 in
/-- the standard writer prints the target square `e3`, with any counters -/
example : stdFen afterE4 0 1 = "rnbqkbnr/pppppppp/8/8/4P3/8/PPPP1PPP/RNBQKBNR b KQkq e3 0 1".toList := by
  decide +kernel

set_option maxRecDepth 100000 in
example : stdFen afterE4 37 112 = "rnbqkbnr/pppppppp/8/8/4P3/8/PPPP1PPP/RNBQKBNR b KQkq e3 37 112".toList := by
  decide +kernel

set_option maxRecDepth 100000 in
/-- the library's own writer prints `-` for the board it builds from that position -/
example : (Board.tryFrom codeTables afterE4.toBuilder).map showBoard =
    some "rnbqkbnr/pppppppp/8/8/4P3/8/PPPP1PPP/RNBQKBNR b KQkq - 0 1".toList := by
  decide +kernel

set_option maxRecDepth 100000 in
/-- both texts parse to the same board (kernel evaluation with the tables of the code) -/
example : ∃ b, parseBoard codeTables "rnbqkbnr/pppppppp/8/8/4P3/8/PPPP1PPP/RNBQKBNR b KQkq e3 0 1".toList = .ok b ∧
    parseBoard codeTables "rnbqkbnr/pppppppp/8/8/4P3/8/PPPP1PPP/RNBQKBNR b KQkq - 0 1".toList = .ok b ∧
    b.ep = none := by
  have h : (match parseBoard codeTables "rnbqkbnr/pppppppp/8/8/4P3/8/PPPP1PPP/RNBQKBNR b KQkq e3 0 1".toList,
      parseBoard codeTables "rnbqkbnr/pppppppp/8/8/4P3/8/PPPP1PPP/RNBQKBNR b KQkq - 0 1".toList with
    | .ok b, .ok b' => decide (b = b') && decide (b.ep = none)
    | _, _ => false) = true := by decide +kernel
  cases h1 : parseBoard codeTables "rnbqkbnr/pppppppp/8/8/4P3/8/PPPP1PPP/RNBQKBNR b KQkq e3 0 1".toList with
  | ok b =>
    cases h2 : parseBoard codeTables "rnbqkbnr/pppppppp/8/8/4P3/8/PPPP1PPP/RNBQKBNR b KQkq - 0 1".toList with
    | ok b' =>
      rw [h1, h2] at h
      simp only [Bool.and_eq_true, decide_eq_true_eq] at h
      exact ⟨b, rfl, by rw [h.1], h.2⟩
    | err => rw [h1, h2] at h; cases h
    | panic => rw [h1, h2] at h; cases h
  | err => rw [h1] at h; cases h
  | panic => rw [h1] at h; cases h

/-- the theorems on it: hypotheses satisfied, and the same conclusion by (b) and `C06_board_roundtrip` -/
example : ∃ b, parseBoard codeTables (stdFen afterE4 0 1) = .ok b ∧
    parseBoard codeTables (showBoard b) = .ok b ∧ b.abs = norm afterE4 := by
  obtain ⟨b, h1, h2, h3⟩ := C06_std_parse codeTables codeTables_ok afterE4 afterE4_valid 0 1
  exact ⟨b, h1, C06_board_roundtrip _ _ _ h2, h3⟩

example : ∃ q', Fen.decode (stdFen afterE4 0 1) = some q' ∧ q'.ep = some 28 := by
  obtain ⟨q', h1, _, _, _, _, h2⟩ :=
    C06_std_decode afterE4 0 1 fun q hq => (Valid_epSane afterE4_valid q hq).2.1
  exact ⟨q', h1, h2⟩

#print axioms C06_std_parse_builder
#print axioms C06_std_parse_builder_eq
#print axioms C06_tryFrom_congr
#print axioms C06_std_parse
#print axioms C06_std_decode
#print axioms C06_std_placement
#print axioms afterE4_valid

end Chess.Props
