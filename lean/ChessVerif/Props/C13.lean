import ChessVerif.Lemmas.Text
/-!
# C13 — coordinate (UCI) move and square text round-trips; parsing is total

`showSquare` / `parseSquare` model `Display` / `FromStr for Square` (`square.rs`), `showMove` /
`parseMove` model `Display` / `FromStr for ChessMove` (`chess_move.rs`).  A `&str` is a `List Char`
with UTF-8 byte lengths and checked slicing (`Str.get`); `Res.panic` is a Rust panic (an out-of-range
`ch[i]`).  All statements quantify over every square / move / string.
-/
namespace Chess.Props

/-- printing a square and parsing it back gives the square -/
theorem C13_square_roundtrip (s : Sq) : parseSquare (showSquare s) = .ok s :=
  parseSquare_showSquare s

/-- printing a move and parsing it back gives the move (promotion piece none / Q / R / B / N;
`Display` prints `p` / `k` for the other two pieces, which `from_str` rejects) -/
theorem C13_move_roundtrip (m : Move)
    (h : m.promo ∈ [none, some .queen, some .rook, some .bishop, some .knight]) :
    parseMove (showMove m) = .ok m := by
  obtain ⟨src, dst, promo⟩ := m
  unfold parseMove showMove
  simp only [List.append_assoc, get_src, get_dst, parseSquare_showSquare, Str.len_append,
    len_showSquare]
  simp only [List.mem_cons, List.not_mem_nil, or_false] at h
  rcases h with h | h | h | h | h <;> subst h <;> simp [pieceChar, showSquare] <;> decide

/-- `Square::from_str` never panics: `ch[1]` is reached only when a second char exists -/
theorem C13_parse_square_total (s : List Char) : parseSquare s ≠ .panic := parseSquare_ne_panic s

/-- `ChessMove::from_str` never panics -/
theorem C13_parse_move_total (s : List Char) : parseMove s ≠ .panic := by
  rcases parseMove_cases s with h | ⟨_, _, _, h⟩ <;> rw [h] <;> nofun

/-- an accepted square text starts with the canonical text of the square returned -/
theorem C13_parse_square_prefix (s : List Char) (q : Sq) :
    parseSquare s = .ok q → showSquare q <+: s := by
  intro h
  obtain ⟨r, hr⟩ := parseSquare_ok h
  exact ⟨r, hr.symm⟩

/-- an accepted move text starts with the canonical text of the move returned -/
theorem C13_parse_move_prefix (s : List Char) (m : Move) :
    parseMove s = .ok m → showMove m <+: s := by
  intro h
  rcases parseMove_cases s with h' | ⟨m', r, hs, h'⟩ <;> rw [h'] at h
  · cases h
  · cases h; exact ⟨r, hs.symm⟩

/-- square text is the file letter `a`..`h` followed by the rank digit `1`..`8` -/
theorem C13_show_square_shape (s : Sq) :
    showSquare s = [Char.ofNat ('a'.toNat + s.val % 8), Char.ofNat ('1'.toNat + s.val / 8)] := rfl

/-- move text is source square text, destination square text, optional lower-case piece letter -/
theorem C13_show_move_shape (m : Move) :
    showMove m = showSquare m.src ++ showSquare m.dst ++
      (match m.promo with
       | none => []
       | some .queen => ['q'] | some .rook => ['r'] | some .bishop => ['b'] | some .knight => ['n']
       | some .pawn => ['p'] | some .king => ['k']) := by
  unfold showMove
  rcases m with ⟨src, dst, _ | p⟩
  · rfl
  · cases p <;> rfl

/-- square text determines the square -/
theorem C13_show_square_injective (p q : Sq) : showSquare p = showSquare q → p = q := by
  intro h
  simp only [showSquare, List.cons.injEq, and_true] at h
  rw [← mkSq_getRank_getFile p, ← mkSq_getRank_getFile q, fileChar_inj _ _ h.1, rankChar_inj _ _ h.2]

/-! non-vacuity: e7e8q, and a string with trailing garbage and a multi-byte character -/
example : showMove ⟨⟨52, by decide⟩, ⟨60, by decide⟩, some .queen⟩ = "e7e8q".toList := by decide
example : (some Piece.queen) ∈ [none, some Piece.queen, some .rook, some .bishop, some .knight] := by
  decide
example : parseSquare "e4é".toList = .ok ⟨28, by decide⟩ := by decide
example : parseSquare "e".toList = .err ∧ parseSquare "é".toList = .err := by decide
/-- the restriction in the round trip is needed: a king "promotion" prints as `k` and is rejected -/
example : parseMove (showMove ⟨⟨52, by decide⟩, ⟨60, by decide⟩, some .king⟩) = .err := by
  have h := C13_show_move_shape ⟨⟨52, by decide⟩, ⟨60, by decide⟩, some .king⟩
  simp only [List.append_assoc] at h
  rw [h]; unfold parseMove
  simp only [get_src, get_dst, parseSquare_showSquare]
  simp [showSquare, fileChar_size, rankChar_size, (by decide : 'k'.utf8Size = 1)]

end Chess.Props
