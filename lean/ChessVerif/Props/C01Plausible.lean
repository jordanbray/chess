import ChessVerif.Lemmas.Plausible
import ChessVerif.Props.C02Ep
/-!
# C01 / C02 — the correspondence's candidate set misses no legal move; the library's en-passant recording
policy lies within the bounds the driver's oracle accepts

The correspondence harness asks the real `Board::legal` on every *plausible* triple of a position
(`plausible`, `Spec/Plausible.lean`: own man on the source; destination different from the source and on the
same file, rank or diagonal or a knight's jump away; promotion none/Q/R/B/N) and requires the accepted
triples to be exactly the legal moves.  This file proves, for ALL positions and moves:

* `C01_pseudoLegal_plausible`, `C01_legal_plausible`, `C01_legalMoves_plausible`,
  `C01_not_plausible_not_legal` — the plausible triples are a superset of the pseudo-legal, hence of the
  legal moves (every clause of `pseudoLegal`: pawn single and double step, capture, en passant, promotion
  options; knight; king step; castling; rook, bishop and queen slides);
* `C01_plausible_query_complete` — a query that agrees with `legal` on the plausible triples accepts, among
  the plausible triples, exactly the legal moves: asking outside the candidate set could reveal no further
  legal move;
* `C02_policy_within_bounds` — the oracle `epPolicy` for the recorded en-passant state never flags the
  library's own policy `norm`; `C02_policy_accepts_iff` — what the oracle accepts, as a proposition.

No hypothesis on the position (validity is not needed).
-/
namespace Chess.Props

/-- (a) every pseudo-legal move (FIDE Article 3 movement) is one of the plausible triples -/
theorem C01_pseudoLegal_plausible (p : Pos) (m : Move) (h : pseudoLegal p m = true) : plausible p m = true :=
  Plausible.pseudoLegal_plausible h

/-- (b) every legal move is one of the plausible triples -/
theorem C01_legal_plausible (p : Pos) (m : Move) (h : legal p m = true) : plausible p m = true :=
  Plausible.legal_plausible h

/-- (b') every member of the specification's move list is plausible -/
theorem C01_legalMoves_plausible (p : Pos) : ∀ m ∈ legalMoves p, plausible p m = true :=
  fun _ hm => Plausible.legal_plausible (Plausible.mem_legalMoves hm)

/-- (b'') contrapositive: a triple outside the candidate set is not legal, so not asking it loses nothing -/
theorem C01_not_plausible_not_legal (p : Pos) (m : Move) (h : plausible p m = false) : legal p m = false := by
  cases hl : legal p m with
  | false => rfl
  | true => rw [Plausible.legal_plausible hl] at h; cases h

/-- (c) let `f` be any Boolean query on moves (the library's `Board::legal`).  If `f` agrees with the
rules' `legal p` on every plausible triple, then the plausible triples accepted by `f` are exactly the legal
moves of `p` -/
theorem C01_plausible_query_complete (p : Pos) (f : Move → Bool)
    (hf : ∀ m, plausible p m = true → f m = legal p m) :
    ∀ m, (plausible p m = true ∧ f m = true) ↔ legal p m = true := by
  intro m
  constructor
  · rintro ⟨hp, hm⟩
    rw [← hf m hp]; exact hm
  · intro hl
    have hp := Plausible.legal_plausible hl
    exact ⟨hp, by rw [hf m hp]; exact hl⟩

/-- (d) the oracle for the recorded en-passant state accepts the library's policy `norm` in every position -/
theorem C02_policy_within_bounds (q : Pos) : epPolicy q (norm q).ep = none :=
  Plausible.epPolicy_norm q

/-- (d') what the oracle accepts: either nothing is recorded and no legal en-passant capture exists on a marked
position, or the recorded square is the mark the rules give and the policy `norm` keeps it -/
theorem C02_policy_accepts_iff (q : Pos) (rec : Option Sq) :
    epPolicy q rec = none ↔
      (rec = none ∧ ¬ (q.ep.isSome = true ∧ ∃ m ∈ legalMoves q, isEnPassant q m = true)) ∨
      (∃ s, rec = some s ∧ q.ep = some s ∧ (norm q).ep = some s) :=
  Plausible.epPolicy_none_iff q rec

/-! ### non-vacuity

In the position after 1.e4 a6 2.e5 (`c02EpPos`, Black to move): d7–d5 is legal (and plausible); d7–d4 is
plausible but not legal; g8–d6 (three files, two ranks) is not plausible, so `plausible` is neither empty nor
everything.  After d7–d5 the oracle accepts the recorded mark d5 and rejects "nothing recorded"; after h7–h5
(no white pawn beside h5) it accepts "nothing recorded" and rejects the mark h5. -/

set_option maxRecDepth 100000 in
theorem c01Plausible_facts :
    (legal c02EpPos c02EpD5 && plausible c02EpPos c02EpD5 &&
      plausible c02EpPos ⟨51, 27, none⟩ && !legal c02EpPos ⟨51, 27, none⟩ &&
      !plausible c02EpPos ⟨62, 43, none⟩ && !plausible c02EpPos ⟨35, 27, none⟩ &&
      plausible c02EpPos ⟨62, 45, some .queen⟩ && !plausible c02EpPos ⟨62, 45, some .king⟩) = true := by
  decide +kernel

/-- the hypothesis of (a)/(b) is satisfiable, and the conclusion is not trivially true of every triple -/
example : ∃ p m m', legal p m = true ∧ pseudoLegal p m = true ∧ plausible p m' = false := by
  have h := c01Plausible_facts
  simp only [Bool.and_eq_true, Bool.not_eq_true'] at h
  exact ⟨c02EpPos, c02EpD5, ⟨62, 43, none⟩, h.1.1.1.1.1.1.1, Closure.legal_pseudo h.1.1.1.1.1.1.1, h.1.1.1.2⟩

/-- the hypothesis of (c) is satisfiable by a query that is wrong outside the candidate set (it accepts every
non-plausible triple): the conclusion still singles out the legal moves, and there are plausible triples that
are not legal -/
example : ∃ (p : Pos) (f : Move → Bool), (∀ m, plausible p m = true → f m = legal p m) ∧ (∃ m, f m = true ∧ legal p m = false) ∧
    (∃ m, plausible p m = true ∧ legal p m = false) ∧ (∃ m, legal p m = true) := by
  have h := c01Plausible_facts
  simp only [Bool.and_eq_true, Bool.not_eq_true'] at h
  refine ⟨c02EpPos, fun m => !plausible c02EpPos m || legal c02EpPos m, ?_, ⟨⟨62, 43, none⟩, ?_, ?_⟩,
    ⟨⟨51, 27, none⟩, h.1.1.1.1.1.2, h.1.1.1.1.2⟩, ⟨c02EpD5, h.1.1.1.1.1.1.1⟩⟩
  · intro m hm; simp [hm]
  · simp [h.1.1.1.2]
  · exact C01_not_plausible_not_legal _ _ h.1.1.1.2

/-- (d): a position whose mark is kept (after d7–d5) and one whose mark is dropped (after h7–h5); the oracle
is not trivially `none`: it rejects "nothing recorded" in the first and the mark h5 in the second -/
example : (norm (apply c02EpPos c02EpD5)).ep = some 35 ∧
    epPolicy (apply c02EpPos c02EpD5) (some 35) = none ∧ epPolicy (apply c02EpPos c02EpD5) none ≠ none ∧
    (norm (apply c02EpPos c02EpH5)).ep = none ∧
    epPolicy (apply c02EpPos c02EpH5) none = none ∧ epPolicy (apply c02EpPos c02EpH5) (some 39) ≠ none := by
  have h := c02Ep_spec_facts
  simp only [Bool.and_eq_true, beq_iff_eq] at h
  obtain ⟨⟨⟨⟨⟨⟨⟨⟨⟨⟨_, _⟩, _⟩, hn⟩, hl'⟩, he'⟩, _⟩, hh⟩, hnh⟩, _⟩, _⟩ := h
  have hq : (apply c02EpPos c02EpD5).ep = some 35 := norm_ep_some hn
  refine ⟨hn, ?_, ?_, hnh, ?_, ?_⟩
  · have := C02_policy_within_bounds (apply c02EpPos c02EpD5)
    rwa [hn] at this
  · rw [Ne, C02_policy_accepts_iff]
    rintro (⟨_, hc⟩ | ⟨s, hs, _⟩)
    · refine hc ⟨by rw [hq]; rfl, c02EpExd6, ?_, he'⟩
      exact (Plausible.mem_legalMoves_iff _ _).mpr hl'
    · cases hs
  · have := C02_policy_within_bounds (apply c02EpPos c02EpH5)
    rwa [hnh] at this
  · rw [Ne, C02_policy_accepts_iff]
    rintro (⟨hc, _⟩ | ⟨s, hs, _, hs'⟩)
    · cases hc
    · rw [hnh] at hs'; cases hs'

end Chess.Props
