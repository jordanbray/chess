import ChessVerif.Lemmas.Assemble
import ChessVerif.Props.C01Struct
import ChessVerif.Props.C03
import ChessVerif.Props.PinCheck
/-!
# C01 (non-king, non-en-passant part) — "legal move generation is exact"

`T` any table set with `TablesOK` (C16), `b` any `Board` with consistent bitboards (`Struct`), exactly one
king of the mover, the enemy king not adjacent (`KingsApart`), cached `checkers` / `pinned` as computed by
`update_pin_info` (`PinOK`; true of every board from `try_from`, `make_move`, `null_move`).
`p := b.abs`, `k := b.kingSquare b.stm`.

* `C01_nonking_exact` — for every move value `m` with `m.src ≠ k` that is not an en-passant capture:
  `m ∈ b.legalMoves T ↔ legal p m = true`;
* `C01_nonking_no_check`, `C01_nonking_single_check`, `C01_nonking_double_check` — the same per check
  regime of `enumerate_moves`, in terms of `Entries.IsMove`;
* `C01_nonking_entry` — one entry: destination bit ∧ promotion shape ↔ legal ∧ not en passant;
* `C01_nonking_dests`, `C01_checkMask_single`, `C01_check_regimes`, `C01_promoShape` — the pieces.

The only fact taken as a hypothesis is about the *other* entries of the list: `hepgen`, "a move produced
by an en-passant entry is an en-passant capture of the specification" (`Assemble.EpGenOK`).  It follows
from "the square behind the marked pawn is empty" (`C01_epGenOK_of_empty`), a clause of `epValid`, and
holds trivially when `b.ep = none`.  That the king entry has source `k` is by definition.

No discrepancy between model and specification was found in this part.
-/
namespace Chess.Props
open Chess.Entries Chess.MoveGen Chess.Assemble CheckPin

/-- the working context from the hypotheses of C03 -/
theorem C01_exact_ctx {T : Tables} (hT : TablesOK T) {b : Board} (hs : Struct b)
    (hk : (b.kings &&& b.colorCombined b.stm).popcnt = 1) (hkk : KingsApart b) (hp : b.PinOK T) :
    Exact T b := Exact.of_PinOK hT hs hk hkk hp

/-- **C01, non-king non-en-passant part.**  A move value whose source is not the mover's king square
and which is not an en-passant capture is generated iff it is legal. -/
theorem C01_nonking_exact {T : Tables} (hT : TablesOK T) {b : Board} (hs : Struct b)
    (hk : (b.kings &&& b.colorCombined b.stm).popcnt = 1) (hkk : KingsApart b) (hp : b.PinOK T)
    (hepgen : ∀ m : Move,
      (∃ epSq : Sq, b.ep = some epSq ∧ (epSources T b epSq).getLsbD m.src.val = true ∧
        legalEpMove T b m.src (epDest b epSq) = some true ∧ m.dst = epDest b epSq ∧ m.promo = none) →
      isEnPassant b.abs m = true) :
    ∀ m : Move, m.src ≠ b.kingSquare b.stm → isEnPassant b.abs m = false →
      (m ∈ b.legalMoves T ↔ legal b.abs m = true) :=
  fun m hsrc hep => nonking_exact (Exact.of_PinOK hT hs hk hkk hp) hepgen m hsrc hep

/-- the en-passant hypothesis from the one fact that needs validity: the square behind the marked pawn
is empty -/
theorem C01_epGenOK_of_empty {T : Tables} (hT : TablesOK T) {b : Board} (hs : Struct b)
    (hemp : ∀ epSq, b.ep = some epSq → b.abs.empty (epDest b epSq) = true) (m : Move) :
    (∃ epSq : Sq, b.ep = some epSq ∧ (epSources T b epSq).getLsbD m.src.val = true ∧
        legalEpMove T b m.src (epDest b epSq) = some true ∧ m.dst = epDest b epSq ∧ m.promo = none) →
      isEnPassant b.abs m = true :=
  epGenOK_of_empty hT hs hemp m

/-- without an en-passant mark there is no en-passant entry -/
theorem C01_epGenOK_of_none {T : Tables} {b : Board} (h : b.ep = none) (m : Move) :
    (∃ epSq : Sq, b.ep = some epSq ∧ (epSources T b epSq).getLsbD m.src.val = true ∧
        legalEpMove T b m.src (epDest b epSq) = some true ∧ m.dst = epDest b epSq ∧ m.promo = none) →
      isEnPassant b.abs m = true := by
  rintro ⟨q, hq, _⟩
  rw [h] at hq; cases hq

/-! ### the pieces -/

/-- the three regimes of `enumerate_moves` are: no checker; exactly one checker, namely
`checkers.to_square()`; two different checkers -/
theorem C01_check_regimes {T : Tables} (hT : TablesOK T) {b : Board} (hs : Struct b)
    (hk : (b.kings &&& b.colorCombined b.stm).popcnt = 1) (hkk : KingsApart b) (hp : b.PinOK T) :
    (b.checkers = 0#64 ↔ ∀ x, checkerSq b.abs x = false) ∧
    (b.checkers.popcnt = 1 →
      checkerSq b.abs b.checkers.toSq = true ∧ ∀ y, checkerSq b.abs y = true → y = b.checkers.toSq) ∧
    (b.checkers ≠ 0#64 → b.checkers.popcnt ≠ 1 →
      ∃ x y, checkerSq b.abs x = true ∧ checkerSq b.abs y = true ∧ x ≠ y) :=
  have hC := C03_checkers_of_PinOK hT hs hk hkk hp
  ⟨checkers_zero_iff hC, single_checker hC, two_checkers hC⟩

/-- the check mask with a single checker `x`: `x` or a square strictly between `x` and the king -/
theorem C01_checkMask_single {T : Tables} (hT : TablesOK T) {b : Board} (h1 : b.checkers.popcnt = 1) (d : Sq) :
    (T.between b.checkers.toSq (b.kingSquare b.stm) ^^^ b.checkers).getLsbD d.val = true ↔
      (d = b.checkers.toSq ∨ strictlyBetween b.checkers.toSq d (b.kingSquare b.stm) = true) :=
  checkMask_single_bit hT h1 d

/-- the destination set of the entry of a man other than the king is its pseudo-legal set cut
down by the pin / check filter `Assemble.filt` (pawns, knights, bishops, rooks, queens alike: the pinned
knight's "nothing" agrees with "stay on the line" because a knight's jump never does) -/
theorem C01_nonking_dests {T : Tables} (hT : TablesOK T) (b : Board) (ic : Bool) {pc : Piece}
    (hpc : pc ≠ .king) (src d : Sq) :
    (dests T b ic pc src).getLsbD d.val =
      ((pseudoLegals T pc src b.stm b.combined (~~~(b.colorCombined b.stm))).getLsbD d.val &&
        (if b.pinned.getLsbD src.val then (!ic && (T.line src (b.kingSquare b.stm)).getLsbD d.val)
         else (checkMask T b ic).getLsbD d.val)) :=
  dests_bit hT b ic hpc src d

/-- the filter is the condition of `PinCheck_A_no_check` / `PinCheck_B_single_check` -/
theorem C01_filter_spec {T : Tables} (hT : TablesOK T) {b : Board} (hs : Struct b)
    (hk : (b.kings &&& b.colorCombined b.stm).popcnt = 1) (hp : b.PinOK T)
    {src : Sq} {pc : Piece} (hsrc : b.content src = some (pc, b.stm)) (d : Sq) :
    (filt T b false src d = true ↔
      (pinnedSq b.abs src = false ∨ (Geom.line src (b.kingSquare b.stm)).getLsbD d.val = true)) ∧
    (b.checkers.popcnt = 1 → (filt T b true src d = true ↔
      (pinnedSq b.abs src = false ∧
        (d = b.checkers.toSq ∨ strictlyBetween b.checkers.toSq d (b.kingSquare b.stm) = true)))) :=
  have hP := C03_pinned_of_PinOK hT hs hk hp
  ⟨filt_noCheck_iff hT hs hP hsrc d, fun h1 => filt_singleCheck_iff hT hs hP h1 hsrc d⟩

/-- the promotion shape of an entry as `Entries` and as `PseudoBits` write it -/
theorem C01_promoShape (b : Board) (pc : Piece) (m : Move) :
    PromoShape (promoFlag b pc m.src) m ↔ PseudoBits.emitShape pc m.src b.stm m.promo :=
  promoShape_iff_emit b pc m

/-- a pseudo-legal move whose source is not the king square is a move of a man of the mover other
than the king, whose bit is in `own b pc` -/
theorem C01_nonking_man {b : Board} (hs : Struct b) (hk : (b.kings &&& b.colorCombined b.stm).popcnt = 1)
    {m : Move} (hpl : pseudoLegal b.abs m = true) (hsrc : m.src ≠ b.kingSquare b.stm) :
    ∃ pc : Piece, pc ≠ .king ∧ b.content m.src = some (pc, b.stm) ∧ (own b pc).getLsbD m.src.val = true := by
  obtain ⟨pc, h1, h2⟩ := man_of_pseudoLegal hs hk hpl hsrc
  exact ⟨pc, h1, h2, (own_bit_iff hs pc m.src).mpr h2⟩

/-- **one entry.**  In the regime the generator works in (`ic = false`, no checker; `ic = true`, one
checker), for the man of kind `pc ≠ king` on `m.src`: destination bit of its entry ∧ emitted promotion
shape ↔ legal ∧ not en passant. -/
theorem C01_nonking_entry {T : Tables} (hT : TablesOK T) {b : Board} (hs : Struct b)
    (hk : (b.kings &&& b.colorCombined b.stm).popcnt = 1) (hkk : KingsApart b) (hp : b.PinOK T)
    {ic : Bool} (hr : (ic = false ∧ b.checkers = 0#64) ∨ (ic = true ∧ b.checkers.popcnt = 1))
    {pc : Piece} {m : Move} (hpc : pc ≠ .king) (hsrc : b.content m.src = some (pc, b.stm)) :
    ((dests T b ic pc m.src).getLsbD m.dst.val = true ∧ PromoShape (promoFlag b pc m.src) m) ↔
      (legal b.abs m = true ∧ isEnPassant b.abs m = false) :=
  dests_iff_legal (Exact.of_PinOK hT hs hk hkk hp) hr hpc hsrc

/-! ### the three regimes separately (no en-passant hypothesis: about the ordinary entries only) -/

/-- no check: `m` is a move of an ordinary entry of a man other than the king iff it is a legal move
from a square other than the king's and not en passant -/
theorem C01_nonking_no_check {T : Tables} (hT : TablesOK T) {b : Board} (hs : Struct b)
    (hk : (b.kings &&& b.colorCombined b.stm).popcnt = 1) (hkk : KingsApart b) (hp : b.PinOK T)
    (h0 : b.checkers = 0#64) (m : Move) :
    (∃ pc : Piece, pc ≠ .king ∧ (own b pc).getLsbD m.src.val = true ∧
      (dests T b false pc m.src).getLsbD m.dst.val = true ∧ PromoShape (promoFlag b pc m.src) m) ↔
    (m.src ≠ b.kingSquare b.stm ∧ legal b.abs m = true ∧ isEnPassant b.abs m = false) :=
  isOrdinary_iff (Exact.of_PinOK hT hs hk hkk hp) (Or.inl ⟨rfl, h0⟩) m

/-- single check: the same with `in_check = true` -/
theorem C01_nonking_single_check {T : Tables} (hT : TablesOK T) {b : Board} (hs : Struct b)
    (hk : (b.kings &&& b.colorCombined b.stm).popcnt = 1) (hkk : KingsApart b) (hp : b.PinOK T)
    (h1 : b.checkers.popcnt = 1) (m : Move) :
    (∃ pc : Piece, pc ≠ .king ∧ (own b pc).getLsbD m.src.val = true ∧
      (dests T b true pc m.src).getLsbD m.dst.val = true ∧ PromoShape (promoFlag b pc m.src) m) ↔
    (m.src ≠ b.kingSquare b.stm ∧ legal b.abs m = true ∧ isEnPassant b.abs m = false) :=
  isOrdinary_iff (Exact.of_PinOK hT hs hk hkk hp) (Or.inr ⟨rfl, h1⟩) m

/-- double check: only king entries are generated, and indeed no other non-en-passant move is legal -/
theorem C01_nonking_double_check {T : Tables} (hT : TablesOK T) {b : Board} (hs : Struct b)
    (hk : (b.kings &&& b.colorCombined b.stm).popcnt = 1) (hkk : KingsApart b) (hp : b.PinOK T)
    (h0 : b.checkers ≠ 0#64) (h1 : b.checkers.popcnt ≠ 1) (m : Move)
    (hsrc : m.src ≠ b.kingSquare b.stm) (hep : isEnPassant b.abs m = false) :
    m ∉ b.legalMoves T ∧ legal b.abs m = false := by
  refine ⟨?_, double_check_illegal (Exact.of_PinOK hT hs hk hkk hp) h0 h1 hsrc hep⟩
  rw [C01S_mem_legalMoves_cases, if_neg h0, if_neg h1]
  rintro ⟨h, _⟩
  exact hsrc h

/-! ### non-vacuity -/

section Examples

/-- White Ke1, Re2, Nb1; black Ka8, Re8; white to move: no check, the rook on e2 is pinned -/
def c01NonKingExBd : Builder where
  pieces s := match s.val with
    | 4 => some (.king, .white) | 12 => some (.rook, .white) | 1 => some (.knight, .white)
    | 56 => some (.king, .black) | 60 => some (.rook, .black)
    | _ => none
  stm := .white
  wcr := .noRights
  bcr := .noRights
  epFile := none

theorem c01NonKingEx_facts : ((Board.tryFrom codeTables c01NonKingExBd).map fun b =>
    b.ep == none && b.checkers == 0#64 && b.kingSquare b.stm == 4 &&
    legal b.abs ⟨12, 28, none⟩ && !legal b.abs ⟨12, 8, none⟩ && legal b.abs ⟨1, 18, none⟩ &&
    !isEnPassant b.abs ⟨12, 28, none⟩ && !isEnPassant b.abs ⟨12, 8, none⟩ &&
    !isEnPassant b.abs ⟨1, 18, none⟩) = some true := by decide +kernel

/-- the hypotheses of `C01_nonking_exact` hold on a board built by `try_from` with the code's tables;
the theorem then decides membership in the generated list: Re2–e4 (along the pin line) and Nb1–c3 are
generated, Re2–a2 (leaving the pin line) is not -/
example : ∃ b : Board, TablesOK codeTables ∧ Struct b ∧ (b.kings &&& b.colorCombined b.stm).popcnt = 1 ∧
    KingsApart b ∧ b.PinOK codeTables ∧ b.ep = none ∧
    (⟨12, 28, none⟩ : Move) ∈ b.legalMoves codeTables ∧ (⟨1, 18, none⟩ : Move) ∈ b.legalMoves codeTables ∧
    (⟨12, 8, none⟩ : Move) ∉ b.legalMoves codeTables := by
  have h := c01NonKingEx_facts
  cases ht : Board.tryFrom codeTables c01NonKingExBd with
  | none => rw [ht] at h; cases h
  | some b =>
    rw [ht] at h
    simp only [Option.map_some, Option.some.injEq, Bool.and_eq_true, beq_iff_eq, Bool.not_eq_true'] at h
    obtain ⟨⟨⟨⟨⟨⟨⟨⟨hep, _⟩, hk4⟩, l1⟩, l2⟩, l3⟩, e1⟩, e2⟩, e3⟩ := h
    have hs := tryFrom_struct ht
    have hsane := tryFrom_isSane ht
    have hk := (isSane_facts hsane).king b.stm
    have hkk := SaneCheck.kingsApart_of_facts codeTables_ok hs (isSane_facts hsane)
    have hp := C03_pinOK_tryFrom ht
    have main := C01_nonking_exact codeTables_ok hs hk hkk hp (C01_epGenOK_of_none hep)
    refine ⟨b, codeTables_ok, hs, hk, hkk, hp, hep, ?_, ?_, ?_⟩
    · exact (main ⟨12, 28, none⟩ (by rw [hk4]; decide) e1).mpr l1
    · exact (main ⟨1, 18, none⟩ (by rw [hk4]; decide) e3).mpr l3
    · intro hm
      have := (main ⟨12, 8, none⟩ (by rw [hk4]; decide) e2).mp hm
      rw [l2] at this; cases this

/-- single check (the position of `C03`: White Ke1, Be2; black Ka8, Re8, Nf3): `popcnt checkers = 1`, so
`C01_nonking_single_check` applies; the pinned bishop cannot capture the checking knight -/
example : ∃ b : Board, Board.tryFrom codeTables exCheckPinBd = some b ∧ b.checkers.popcnt = 1 ∧
    (⟨12, 21, none⟩ : Move) ∉ b.legalMoves codeTables := by
  have h : ((Board.tryFrom codeTables exCheckPinBd).map fun b =>
      b.ep == none && b.checkers.popcnt == 1 && b.kingSquare b.stm == 4 &&
      !legal b.abs ⟨12, 21, none⟩ && !isEnPassant b.abs ⟨12, 21, none⟩) = some true := by decide +kernel
  cases ht : Board.tryFrom codeTables exCheckPinBd with
  | none => rw [ht] at h; cases h
  | some b =>
    rw [ht] at h
    simp only [Option.map_some, Option.some.injEq, Bool.and_eq_true, beq_iff_eq, Bool.not_eq_true'] at h
    obtain ⟨⟨⟨⟨hep, h1⟩, hk4⟩, l1⟩, e1⟩ := h
    have hs := tryFrom_struct ht
    have hsane := tryFrom_isSane ht
    have hk := (isSane_facts hsane).king b.stm
    have main := C01_nonking_exact codeTables_ok hs hk (SaneCheck.kingsApart_of_facts codeTables_ok hs (isSane_facts hsane))
      (C03_pinOK_tryFrom ht) (C01_epGenOK_of_none hep)
    refine ⟨b, rfl, h1, fun hm => ?_⟩
    have := (main ⟨12, 21, none⟩ (by rw [hk4]; decide) e1).mp hm
    rw [l1] at this; cases this

end Examples

end Chess.Props

namespace Chess.PseudoBits

/-! non-vacuity of `pseudoLegals_iff` -/

/-- e7 pawn, e1 king (white, to move); d8 rook, h8 king (black) -/
def exBoard : Board :=
  { Board.blank with
    pawns := BB.ofSq 52, rooks := BB.ofSq 59, kings := BB.ofSq 4 ||| BB.ofSq 63,
    white := BB.ofSq 52 ||| BB.ofSq 4, black := BB.ofSq 59 ||| BB.ofSq 63,
    combined := BB.ofSq 52 ||| BB.ofSq 4 ||| BB.ofSq 59 ||| BB.ofSq 63 }

theorem exBoard_struct : Struct exBoard := by
  apply Struct.of_eqs'
  · intro x y
    cases x <;> cases y <;> decide
  · decide
  · decide
  · decide

/-- the hypotheses of `pseudoLegals_iff` hold for the e7 pawn (square 52) of `exBoard` with the
generated tables, and both sides are true for the capture-promotion e7xd8=N and for e7-e8=Q -/
example : TablesOK codeTables ∧ Struct exBoard ∧ exBoard.content 52 = some (.pawn, exBoard.stm) ∧
    pseudoLegal exBoard.abs ⟨52, 59, some .knight⟩ = true ∧
    isEnPassant exBoard.abs ⟨52, 59, some .knight⟩ = false ∧
    pseudoLegal exBoard.abs ⟨52, 60, some .queen⟩ = true ∧
    pseudoLegal exBoard.abs ⟨52, 60, none⟩ = false :=
  ⟨codeTables_ok, exBoard_struct, by decide, by decide, by decide, by decide, by decide⟩

example : (MoveGen.pseudoLegals codeTables .pawn 52 exBoard.stm exBoard.combined
      (~~~(exBoard.colorCombined exBoard.stm))).getLsbD (59 : Sq).val = true ∧
    emitShape .pawn 52 exBoard.stm (some .knight) :=
  (pseudoLegals_iff codeTables_ok exBoard_struct (by decide) (by decide) 59 (some .knight)).mpr
    ⟨by decide, by decide⟩

end Chess.PseudoBits
