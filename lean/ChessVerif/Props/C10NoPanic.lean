import ChessVerif.Lemmas.GameLegalSrc
import ChessVerif.Lemmas.GameExamples
/-!
# C10, supplement — a legal move never makes `make_move_new` panic on a sane board

Kept apart from `Props/C10.lean` because it depends on `Lemmas/Entries.lean` (what the generator
yields, by the kind of man on the source square), hence on the iterator lemmas of C14.

`Board.SrcOK b`: every own piece of `b` is recorded in `combined`, and the side to move has a king.
Both follow from `Board::is_sane`.  For arbitrary `Board` values the statement is false
(`C10_legal_makeMove_some_fails_on_insane_board` in `Props/C10.lean`).

That `make_move_new` of a legal move preserves `is_sane` is not used here — the no-panic statement for
games takes "the positions of this game satisfy `SrcOK`" as a hypothesis; for games started from a valid
position it is discharged by `C03_reached_exact` (`Props/C03Step.lean`) and `C10_refines`
(`Props/C10Full.lean`).
-/
namespace Chess.Props
open Chess Chess.Game Chess.GameExamples

/-- every legal move starts on an occupied square, hence `make_move_new` does not panic -/
theorem C10_legal_makeMove_some {T : Tables} {b : Board} (hb : Board.SrcOK b) {m : Move}
    (h : b.legal T m = true) : (b.makeMoveNew T m).isSome = true := Board.legal_makeMove_some hb h

/-- in particular on every board accepted by `is_sane` -/
theorem C10_legal_makeMove_some_of_isSane {T : Tables} {b : Board} (hb : b.isSane T = true) {m : Move}
    (h : b.legal T m = true) : (b.makeMoveNew T m).isSome = true :=
  Board.legal_makeMove_some (Board.SrcOK_of_isSane hb) h

/-- a game whose log was built by the operations, and whose positions all satisfy `SrcOK`, replays
without panic -/
theorem C10_no_panic_of_srcOK {T : Tables} {g : Game} (h : LogOK T g)
    (hs : ∀ k cur, currentPosition T ⟨g.startPos, g.moves.take k⟩ = some cur → Board.SrcOK cur) :
    (g.currentPosition T).isSome := LogOK_currentPosition_isSome_of_srcOK h hs

set_option maxRecDepth 100000 in
/-- non-vacuity: the initial position is sane under the real tables, hence `SrcOK` -/
example : Board.SrcOK startBoard := Board.SrcOK_of_isSane (T := codeTables) (by decide +kernel)

end Chess.Props
