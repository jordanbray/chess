import ChessVerif.Lemmas.PinOKStep
import ChessVerif.Lemmas.FenBoard
import ChessVerif.Proofs.TablesOK
import ChessVerif.CodeTables
/-!
# C03 (incremental part) — a position reached by making moves equals the freshly computed one

`Board::make_move_new` does not call `update_pin_info`: it resets `pinned` / `checkers`, adds the direct
check of the man that has just moved (a knight, a pawn, a pawn promoted to a knight) and runs the slider
scan of `update_pin_info` for the new side to move.  `Board.PinOK T b := b.updatePinInfo T = b` says the
cached fields are the from-scratch ones.

* `C03_makeMove_pinOK_weak`: after a **pseudo-legal** move from a board with `Core`, the two side conditions
  of C02 (`EpSane`, `RightsSane`), exactly one king of the side not to move and that side not in check, the
  result satisfies `PinOK`.  These are the only clauses of `Valid` that are used; legality of the move is
  not needed.  `C03_makeMove_pinOK` is the instance for `Valid` positions and legal moves.
* `C03_board_determined`: two boards with `Core` and `PinOK` that describe the same position (same content,
  side, rights, ep square) are equal as records — all sixteen fields, hence Rust's derived `==`.
* `C03_reached_exact`: along every play (legal moves and null moves) from a board accepted by `try_from`
  whose position is `Valid`, every board reached satisfies `Core`, `PinOK`, `is_sane`, its `checkers` are
  exactly the attackers of the mover's king and its pinned own men exactly the absolutely pinned ones.
* `C03_reached_eq_fresh`, `C03_reached_tryFrom_toBuilder`, `C03_reached_fen_roundtrip`: such a board is
  equal to the board `try_from` builds from any builder state describing it, in particular from its own
  builder view, and `Board::from_str(board.to_string())` gives it back.
-/
namespace Chess.Props
open CheckPin PinStep


/-! ### one move -/

/-- the slider scan is linear in its accumulator: starting from `(P, C)` xors `(P, C)` onto the result of
starting from `(0, 0)` -/
theorem C03_scan_linear (T : Tables) (comb : BB) (k : Sq) (l : List Sq) (P C : BB) :
    Board.sliderScan T comb k l (P, C) =
      ((Board.sliderScan T comb k l (0#64, 0#64)).1 ^^^ P, (Board.sliderScan T comb k l (0#64, 0#64)).2 ^^^ C) := by
  rw [scan_eq, scan_eq T comb k l 0#64 0#64, BitVec.zero_xor, BitVec.zero_xor, BitVec.xor_comm P, BitVec.xor_comm C]

/-- the clauses of `Valid` actually used: one king of the side not to move, that side not in check, and the
two side conditions of C02; the move only has to be pseudo-legal -/
theorem C03_makeMove_pinOK_weak (T : Tables) (hT : TablesOK T) (b : Board) (hc : Core T b) (m : Move)
    (hpl : pseudoLegal b.abs m = true) (hep : b.abs.EpSane) (hrs : b.abs.RightsSane)
    (hk1 : count b.abs (· == (.king, b.stm.other)) = 1) (hnc : inCheck b.abs b.stm.other = false)
    (b' : Board) (h : b.makeMoveNew T m = some b') : b'.PinOK T :=
  makeMove_pinOK hT hc hpl hep hrs hk1 hnc h

/-- **the incrementally maintained `pinned` / `checkers` are the from-scratch ones** -/
theorem C03_makeMove_pinOK (T : Tables) (hT : TablesOK T) (b : Board) (hc : Core T b)
    (hv : Valid b.abs = true) (m : Move) (hl : legal b.abs m = true) (b' : Board)
    (h : b.makeMoveNew T m = some b') : b'.PinOK T :=
  have hvp := (Closure.valid_iff _).mp hv
  makeMove_pinOK hT hc (Closure.legal_pseudo hl) (Valid_epSane hv) (Valid_rightsSane hv) (hvp.king _)
    hvp.notInCheck h

/-- with the tables of the code -/
theorem C03_makeMove_pinOK_code (b : Board) (hc : Core codeTables b) (hv : Valid b.abs = true) (m : Move)
    (hl : legal b.abs m = true) (b' : Board) (h : b.makeMoveNew codeTables m = some b') :
    b'.updatePinInfo codeTables = b' :=
  C03_makeMove_pinOK codeTables codeTables_ok b hc hv m hl b' h

/-! ### a board is determined by its position -/

/-- two boards with consistent bitboards and hash (`Core`) and from-scratch caches (`PinOK`) that have the
same men, side to move, castling rights and ep square are equal (all sixteen fields) -/
theorem C03_board_determined (T : Tables) (b₁ b₂ : Board) (hc₁ : Core T b₁) (hc₂ : Core T b₂)
    (hp₁ : b₁.PinOK T) (hp₂ : b₂.PinOK T) (hcont : b₁.content = b₂.content) (hstm : b₁.stm = b₂.stm)
    (hw : b₁.wcr = b₂.wcr) (hb : b₁.bcr = b₂.bcr) (he : b₁.ep = b₂.ep) : b₁ = b₂ :=
  board_determined hc₁ hc₂ hp₁ hp₂ hcont hstm hw hb he

/-- the same, with "same position" as one equation -/
theorem C03_board_determined_abs (T : Tables) (b₁ b₂ : Board) (hc₁ : Core T b₁) (hc₂ : Core T b₂)
    (hp₁ : b₁.PinOK T) (hp₂ : b₂.PinOK T) (h : b₁.abs = b₂.abs) : b₁ = b₂ :=
  board_determined_abs hc₁ hc₂ hp₁ hp₂ h

/-! ### along every play -/

/-- one step of the invariant: after a legal move, everything holds again and the position is the
specification's successor -/
theorem C03_step (T : Tables) (hT : TablesOK T) (b b' : Board) (m : Move) (hi : ReachInv T b)
    (hl : legal b.abs m = true) (h : b.makeMoveNew T m = some b') :
    ReachInv T b' ∧ b'.abs = norm (apply b.abs m) := hi.move hT hl h

/-- every board reached by legal moves and null moves from an accepted builder state holding a valid
position: structural invariant, from-scratch caches, valid position, `is_sane`, exact checkers, exact pins -/
theorem C03_reached_exact (T : Tables) (hT : TablesOK T) (b : Board) (h : Reached T b) :
    Core T b ∧ b.PinOK T ∧ Valid b.abs = true ∧ b.isSane T = true ∧
    (b.kings &&& b.colorCombined b.stm).popcnt = 1 ∧ KingsApart b ∧
    (∀ x : Sq, b.checkers.getLsbD x.val = checkerSq b.abs x) ∧
    (∀ y : Sq, (b.pinned &&& b.colorCombined b.stm).getLsbD y.val = pinnedSq b.abs y) :=
  have hi := h.inv hT
  ⟨hi.core, hi.pin, hi.valid, hi.isSane hT, hi.popcnt b.stm, hi.good.kingsApart, hi.checkers hT, hi.pinned hT⟩

/-- `checkers() == EMPTY` is "the side to move is not in check" on every reached board -/
theorem C03_reached_checkers_empty_iff (T : Tables) (hT : TablesOK T) (b : Board) (h : Reached T b) :
    b.checkers = 0#64 ↔ inCheck b.abs b.stm = false := (h.inv hT).good.checkers_zero_iff hT

/-- a reached board is the board `try_from` builds from its own builder view -/
theorem C03_reached_tryFrom_toBuilder (T : Tables) (hT : TablesOK T) (b : Board) (h : Reached T b) :
    Board.tryFrom T b.toBuilder = some b := (h.inv hT).tryFrom_toBuilder hT

/-- **a position reached incrementally equals the same position freshly computed**: `try_from` applied to any
builder state describing the reached board (same men, side, rights, ep file) returns that very board -/
theorem C03_reached_eq_fresh (T : Tables) (hT : TablesOK T) (b : Board) (h : Reached T b) (bd : Builder)
    (hpieces : ∀ s, bd.pieces s = b.content s) (hstm : bd.stm = b.stm) (hw : bd.wcr = b.wcr)
    (hb : bd.bcr = b.bcr) (hepf : bd.epFile = b.ep.map Sq.getFile) : Board.tryFrom T bd = some b := by
  have e : bd = b.toBuilder := by
    obtain ⟨p, s, w, k, f⟩ := bd
    simp only at hpieces hstm hw hb hepf
    have hp : p = b.toBuilder.pieces := funext hpieces
    subst hp hstm hw hb hepf
    rfl
  rw [e]
  exact C03_reached_tryFrom_toBuilder T hT b h

/-- two reached boards with the same position are equal -/
theorem C03_reached_unique (T : Tables) (hT : TablesOK T) (b₁ b₂ : Board) (h₁ : Reached T b₁) (h₂ : Reached T b₂)
    (h : b₁.abs = b₂.abs) : b₁ = b₂ :=
  board_determined_abs (h₁.inv hT).core (h₂.inv hT).core (h₁.inv hT).pin (h₂.inv hT).pin h

/-- `Board::from_str(board.to_string())` gives a reached board back (this is
`C06_board_roundtrip_reachable_full` for valid starting positions and legal moves) -/
theorem C03_reached_fen_roundtrip (T : Tables) (hT : TablesOK T) (b : Board) (h : Reached T b) :
    parseBoard T (showBoard b) = .ok b :=
  parseBoard_showBoard T b.toBuilder b (C03_reached_tryFrom_toBuilder T hT b h)

/-! ### non-vacuity

White Ka1, Re1, Ne4; black Ke8, Pa7; white to move.  Ne4–d6 gives check with the knight and uncovers the
rook: after the move `checkers = {d6, e1}`. -/
def c03StepBd : Builder where
  pieces s := match s.val with
    | 0 => some (.king, .white) | 4 => some (.rook, .white) | 28 => some (.knight, .white)
    | 60 => some (.king, .black) | 48 => some (.pawn, .black)
    | _ => none
  stm := .white
  wcr := .noRights
  bcr := .noRights
  epFile := none

def c03StepMove : Move := ⟨28, 43, none⟩

theorem c03Step_facts :
    ((Board.tryFrom codeTables c03StepBd).map fun b =>
      Valid b.abs && legal b.abs c03StepMove &&
      (match b.makeMoveNew codeTables c03StepMove with
       | some b' => b'.checkers == (BB.ofSq 43 ||| BB.ofSq 4) && b'.pinned == 0#64
       | none => false)) = some true := by decide +kernel

/-- the hypotheses of `C03_makeMove_pinOK` (and of `C03_makeMove_pinOK_weak`) hold for this board and move,
and the conclusion is about a non-trivial `checkers` value (a double check) -/
example : ∃ b m b', Core codeTables b ∧ Valid b.abs = true ∧ legal b.abs m = true ∧
    b.makeMoveNew codeTables m = some b' ∧ b'.checkers = BB.ofSq 43 ||| BB.ofSq 4 ∧ b'.PinOK codeTables ∧
    Reached codeTables b' := by
  have hf := c03Step_facts
  cases ht : Board.tryFrom codeTables c03StepBd with
  | none => rw [ht] at hf; cases hf
  | some b =>
    rw [ht] at hf
    simp only [Option.map_some, Option.some.injEq, Bool.and_eq_true] at hf
    obtain ⟨⟨hv, hl⟩, hm⟩ := hf
    cases hmk : b.makeMoveNew codeTables c03StepMove with
    | none => rw [hmk] at hm; cases hm
    | some b' =>
      rw [hmk] at hm
      simp only [Bool.and_eq_true, beq_iff_eq] at hm
      have hc := (tryFrom_spec codeTables c03StepBd b ht).1
      exact ⟨b, c03StepMove, b', hc, hv, hl, hmk, hm.1,
        C03_makeMove_pinOK codeTables codeTables_ok b hc hv _ hl b' hmk,
        .move b b' _ (.start c03StepBd b ht hv) hl hmk⟩

/-- the hypotheses of `C03_board_determined` are satisfiable (any board accepted by `try_from`) -/
example : ∃ b, Core codeTables b ∧ b.PinOK codeTables ∧ Reached codeTables b := by
  have hf := c03Step_facts
  cases ht : Board.tryFrom codeTables c03StepBd with
  | none => rw [ht] at hf; cases hf
  | some b =>
    rw [ht] at hf
    simp only [Option.map_some, Option.some.injEq, Bool.and_eq_true] at hf
    exact ⟨b, (tryFrom_spec codeTables c03StepBd b ht).1, Board.PinOK.tryFrom ht,
      .start c03StepBd b ht hf.1.1⟩

end Chess.Props
