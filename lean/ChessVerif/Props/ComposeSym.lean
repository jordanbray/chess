import ChessVerif.Props.Compose
import ChessVerif.Props.C17
/-!
# Composition of C01 / C04 with C17: the symmetries on the library's boards

* `C17_model_mirror`, `C17_model_flip` — the library's generated moves, `Board::legal` and `Board::status`
  on two well-formed boards holding mirror-image positions (file-flipped positions without castling rights)
  correspond;
* `C17_model_mirror_exists`, `C17_model_flip_exists` — the image of the position of a board reached by play
  can be set up through `try_from`, and the board built holds exactly the image.
-/
namespace Chess.Props
open Chess.Final

variable {T : Tables} {b : Board}

/-! ### C17 -/

/-- **C17 on the library.** Two well-formed boards holding a valid position and its colour/rank mirror image:
the generated moves of one are the mirror images of the generated moves of the other, `Board::legal`
agrees, and the statuses are equal. -/
theorem C17_model_mirror (hT : TablesOK T) {b₂ : Board} (hg : b.Good T) (hg₂ : b₂.Good T)
    (h : b₂.abs = b.abs.mirror) :
    (∀ m : Move, m ∈ b.legalMoves T ↔ m.mirror ∈ b₂.legalMoves T) ∧
    (∀ m : Move, b₂.legal T m.mirror = b.legal T m) ∧
    b₂.status T = b.status T := by
  have h1 := C17_valid_unique_king hg.valid b.abs.stm
  refine C17_model_transfer hT hg hg₂ Move.mirror (fun m => ?_) ?_
  · rw [h]; exact C17_mirror_legal b.abs h1 m
  · rw [h]; exact C17_mirror_status b.abs h1

/-- the mirror image of the position of a board reached by play can be set up, and the board built holds
exactly the mirror image -/
theorem C17_model_mirror_exists (hT : TablesOK T) (hr : PlayReachable T b) :
    ∃ b₂, Board.tryFrom T b.abs.mirror.toBuilder = some b₂ ∧ b₂.abs = b.abs.mirror ∧ b₂.Good T := by
  have hi := reachInv_of_playReachable hT hr
  have hv : Valid b.abs.mirror = true := by rw [C17_mirror_valid]; exact hi.valid
  obtain ⟨b₂, ht, habs, hg⟩ := Board.Good.exists_of_valid hT hv
  refine ⟨b₂, ht, ?_, hg⟩
  rw [habs, ← C17_mirror_norm, hi.epn]

/-- the same for the file flip, for positions without castling rights -/
theorem C17_model_flip (hT : TablesOK T) {b₂ : Board} (hg : b.Good T) (hg₂ : b₂.Good T)
    (hn : NoCastle b.abs) (h : b₂.abs = b.abs.flipFiles) :
    (∀ m : Move, m ∈ b.legalMoves T ↔ m.flipFile ∈ b₂.legalMoves T) ∧
    (∀ m : Move, b₂.legal T m.flipFile = b.legal T m) ∧
    b₂.status T = b.status T := by
  have h1 := C17_valid_unique_king hg.valid b.abs.stm
  refine C17_model_transfer hT hg hg₂ Move.flipFile (fun m => ?_) ?_
  · rw [h]; exact C17_flip_legal b.abs hn h1 m
  · rw [h]; exact C17_flip_status b.abs hn h1

theorem C17_model_flip_exists (hT : TablesOK T) (hr : PlayReachable T b) (hn : NoCastle b.abs) :
    ∃ b₂, Board.tryFrom T b.abs.flipFiles.toBuilder = some b₂ ∧ b₂.abs = b.abs.flipFiles ∧ b₂.Good T := by
  have hi := reachInv_of_playReachable hT hr
  have hv : Valid b.abs.flipFiles = true := by rw [C17_flip_valid _ hn]; exact hi.valid
  obtain ⟨b₂, ht, habs, hg⟩ := Board.Good.exists_of_valid hT hv
  refine ⟨b₂, ht, ?_, hg⟩
  rw [habs, ← C17_flip_norm, hi.epn]

/-! ### non-vacuity -/

section Examples
open GameExamples

/-- the initial position and its mirror image, both set up through `try_from` with the code's tables -/
example : ∃ b b₂ : Board, b.Good codeTables ∧ b₂.Good codeTables ∧ b₂.abs = b.abs.mirror ∧
    (∀ m : Move, m ∈ b.legalMoves codeTables ↔ m.mirror ∈ b₂.legalMoves codeTables) ∧
    b₂.status codeTables = b.status codeTables := by
  obtain ⟨b, ht, _, hg⟩ := C01_good_of_valid_pos codeTables_ok startPos_valid
  have hr : PlayReachable codeTables b := .start _ b ht hg.valid
  obtain ⟨b₂, _, h2, hg₂⟩ := C17_model_mirror_exists codeTables_ok hr
  have r := C17_model_mirror codeTables_ok hg hg₂ h2
  exact ⟨b, b₂, hg, hg₂, h2, r.1, r.2.2⟩

end Examples

end Chess.Props
