import ChessVerif.Lemmas.MoveInv
import ChessVerif.Proofs.TablesOK
/-!
# C02 — `make_move_new` yields the specification's successor position

`Board.makeMoveNew` models `Board::make_move_new` (`none` = the `unwrap()` panic on an empty source
square), `Board.abs` reads a board as a mailbox position, `apply` is the FIDE successor position and
`norm` the library's recording policy for the ep mark (kept only if a pawn of the side to move stands
beside the pushed pawn).

`C02_make_move_refines`: for every table set with `TablesOK`, every board satisfying the structural
invariant `Core`, and every move pseudo-legal on its position, provided
* `Pos.EpSane`: the ep mark, if any, names an enemy pawn on its fourth rank whose passed-over square is empty
  (three conjuncts of `epValid`), and
* `Pos.RightsSane`: castling rights imply king and rook at home (the clause of `Valid`),
`make_move_new` does not panic and its result has exactly the men, side to move, castling rights and
(normalised) ep mark of `apply`, and satisfies `Core` again.  Both side conditions hold on `Valid`
positions (`C02_make_move_refines_valid`).

The statement without the side conditions is **false**, even on boards accepted by `try_from`/`is_sane`
and with the code's own tables: `C02_unconditional_false` (FEN `4k3/8/3n4/3pP3/8/8/8/4K3 w - d6`, move
e5xd6: the code also removes the pawn on d5, because `make_move_new` takes the en-passant branch whenever
the square behind the destination is the ep square, even if the destination is occupied).
-/
namespace Chess.Props

theorem C02_make_move_refines (T : Tables) (hT : TablesOK T) (b : Board) (hc : Core T b) (m : Move)
    (hpl : pseudoLegal b.abs m = true) (hep : b.abs.EpSane) (hrs : b.abs.RightsSane) :
    ∃ b', b.makeMoveNew T m = some b' ∧ Core T b' ∧ b'.content = (apply b.abs m).board ∧
      b'.stm = b.stm.other ∧
      (∀ c, (b'.castleRights c).ks = (apply b.abs m).castleK c ∧
            (b'.castleRights c).qs = (apply b.abs m).castleQ c) ∧
      b'.ep = (norm (apply b.abs m)).ep := make_move_refines hT hc hpl hep hrs

/-- the same as one equation: the position of the result is `norm (apply position move)` -/
theorem C02_make_move_abs (T : Tables) (hT : TablesOK T) (b : Board) (hc : Core T b) (m : Move)
    (hpl : pseudoLegal b.abs m = true) (hep : b.abs.EpSane) (hrs : b.abs.RightsSane) :
    ∃ b', b.makeMoveNew T m = some b' ∧ Core T b' ∧ b'.abs = norm (apply b.abs m) :=
  make_move_abs hT hc hpl hep hrs

/-- on valid positions (and in particular for legal moves) no side condition is left -/
theorem C02_make_move_refines_valid (T : Tables) (hT : TablesOK T) (b : Board) (hc : Core T b) (m : Move)
    (hv : Valid b.abs = true) (hpl : pseudoLegal b.abs m = true) :
    ∃ b', b.makeMoveNew T m = some b' ∧ Core T b' ∧ b'.abs = norm (apply b.abs m) :=
  make_move_abs hT hc hpl (Valid_epSane hv) (Valid_rightsSane hv)

theorem C02_make_move_legal (T : Tables) (hT : TablesOK T) (b : Board) (hc : Core T b) (m : Move)
    (hv : Valid b.abs = true) (hl : legal b.abs m = true) :
    ∃ b', b.makeMoveNew T m = some b' ∧ Core T b' ∧ b'.abs = norm (apply b.abs m) := by
  unfold legal at hl
  rw [Bool.and_eq_true] at hl
  exact C02_make_move_refines_valid T hT b hc m hv hl.1

/-- the two side conditions are invariants of play: after a pseudo-legal move made under them they hold again -/
theorem C02_side_conditions_invariant (T : Tables) (hT : TablesOK T) (b b' : Board) (hc : Core T b) (m : Move)
    (hpl : pseudoLegal b.abs m = true) (hep : b.abs.EpSane) (hrs : b.abs.RightsSane)
    (h : b.makeMoveNew T m = some b') : Core T b' ∧ b'.abs.EpSane ∧ b'.abs.RightsSane :=
  (PlayInv.move hT ⟨hc, hep, hrs⟩ hpl h).1

/-- `is_sane` boards satisfy the castling-rights condition -/
theorem C02_sane_rights (T : Tables) (hT : TablesOK T) (b : Board) (hs : Struct b) (h : b.isSane T = true) :
    b.abs.RightsSane := (isSane_facts h).rightsSane hT hs

/-- along any play (null moves and pseudo-legal moves) from an accepted builder state whose ep mark is
consistent, every `make_move_new` yields `norm (apply position move)`: no side condition is left -/
theorem C02_make_move_played (T : Tables) (hT : TablesOK T) (b : Board) (hp : Played T b) (m : Move)
    (hpl : pseudoLegal b.abs m = true) :
    ∃ b', b.makeMoveNew T m = some b' ∧ Played T b' ∧ b'.abs = norm (apply b.abs m) := by
  obtain ⟨hc, hep, hrs⟩ := hp.inv hT
  obtain ⟨b', h1, _, h3⟩ := make_move_abs hT hc hpl hep hrs
  exact ⟨b', h1, .move b b' m hp hpl h1, h3⟩

/-- with the tables of the code -/
theorem C02_make_move_code (b : Board) (hc : Core codeTables b) (m : Move)
    (hv : Valid b.abs = true) (hpl : pseudoLegal b.abs m = true) :
    ∃ b', b.makeMoveNew codeTables m = some b' ∧ Core codeTables b' ∧ b'.abs = norm (apply b.abs m) :=
  C02_make_move_refines_valid codeTables codeTables_ok b hc m hv hpl

/-- `make_move(&self, m, &mut result)` computes exactly what `make_move_new` returns, whatever `result` held -/
theorem C02_make_move_eq_new (T : Tables) (b : Board) (m : Move) (prior : Board) :
    Board.makeMove T b m prior = Board.makeMoveNew T b m := rfl

/-- the source board is not modified: `make_move_new` is a function of `&self`; the value bound to the
source is the same before and after the call -/
theorem C02_source_unchanged (T : Tables) (b : Board) (m : Move) :
    (fun src : Board => (src.makeMoveNew T m, src)) b = (b.makeMoveNew T m, b) := rfl

/-- the only panic: an empty source square -/
theorem C02_make_move_panics_iff (T : Tables) (b : Board) (m : Move) :
    b.makeMoveNew T m = none ↔ b.pieceOn m.src = none := makeMoveNew_none_iff T b m

/-- the result, whenever there is one, has the other side to move (no hypothesis at all) -/
theorem C02_make_move_flips (T : Tables) (b b' : Board) (m : Move) (h : b.makeMoveNew T m = some b') :
    b'.stm = b.stm.other := by
  cases hp : b.pieceOn m.src with
  | none => rw [(makeMoveNew_none_iff T b m).mpr hp] at h; cases h
  | some pc =>
    obtain ⟨x, y, e⟩ := makeMoveNew_some T b m pc hp
    rw [h] at e
    injection e with e
    rw [e]
    exact (congrArg Color.other (mmPlace_stm ..)).trans (congrArg Color.other (mm1_stm ..))

/-! ### the statement without side conditions is false -/

/-- C02 with no condition on the ep mark, on boards accepted by `is_sane` -/
def C02_make_move_refines_unconditional : Prop :=
  ∀ (T : Tables), TablesOK T → ∀ (b : Board), Core T b → b.isSane T = true → ∀ m : Move,
    pseudoLegal b.abs m = true → ∃ b', b.makeMoveNew T m = some b' ∧ b'.content = (apply b.abs m).board

/-- white Ke1, Pe5; black Ke8, Pd5, Nd6; white to move; ep file d (`4k3/8/3n4/3pP3/8/8/8/4K3 w - d6`) -/
def c02CexBd : Builder where
  pieces s := match s.val with
    | 4 => some (.king, .white) | 36 => some (.pawn, .white)
    | 60 => some (.king, .black) | 35 => some (.pawn, .black) | 43 => some (.knight, .black)
    | _ => none
  stm := .white
  wcr := .noRights
  bcr := .noRights
  epFile := some 3

/-- e5xd6, capturing the knight -/
def c02CexMove : Move := ⟨36, 43, none⟩

/-- `try_from` accepts `bd`, `m` is pseudo-legal, and the contents of square `s` after `make_move_new`
differ from the specification's -/
def c02DiscrepancyAt (T : Tables) (bd : Builder) (m : Move) (s : Sq) : Bool :=
  match Board.tryFrom T bd with
  | none => false
  | some b => pseudoLegal b.abs m && match b.makeMoveNew T m with
    | none => false
    | some b' => b'.content s != (apply b.abs m).board s

set_option maxRecDepth 100000 in
/-- with the code's tables: after e5xd6 the code's board has no pawn on d5, the specification's has -/
theorem C02_discrepancy_ep_capture : c02DiscrepancyAt codeTables c02CexBd c02CexMove 35 = true := by decide +kernel

set_option maxRecDepth 100000 in
/-- the move is even legal, and the only defect of the position is `epValid` (the square behind the
marked pawn is occupied) -/
theorem C02_discrepancy_ep_capture_legal :
    ((Board.tryFrom codeTables c02CexBd).map fun b => legal b.abs c02CexMove && !epValid b.abs &&
      Valid { b.abs with ep := none }) = some true := by decide +kernel

theorem C02_unconditional_false : ¬ C02_make_move_refines_unconditional := by
  intro h
  have hd := C02_discrepancy_ep_capture
  unfold c02DiscrepancyAt at hd
  cases ht : Board.tryFrom codeTables c02CexBd with
  | none => rw [ht] at hd; cases hd
  | some b =>
    rw [ht] at hd
    simp only [Bool.and_eq_true] at hd
    obtain ⟨hpl, hd⟩ := hd
    obtain ⟨hc, _, _, _, _, _, _, hsane⟩ := tryFrom_spec codeTables c02CexBd b ht
    obtain ⟨b', hm, hcont⟩ := h codeTables codeTables_ok b hc hsane c02CexMove hpl
    rw [hm] at hd
    simp only [bne_iff_ne] at hd
    exact hd (congrFun hcont 35)

/-! ### non-vacuity: `r3k2r/8/8/3pP3/8/8/8/R3K2R w KQkq d6` built by `try_from` with the code's tables is a
valid position; en passant e5xd6, both castlings, a rook move and a king move are pseudo-legal there, so the
hypotheses of `C02_make_move_refines_valid` hold for all five, and the results are as `apply` says -/
def c02ExBd : Builder where
  pieces s := match s.val with
    | 0 => some (.rook, .white) | 4 => some (.king, .white) | 7 => some (.rook, .white) | 36 => some (.pawn, .white)
    | 56 => some (.rook, .black) | 60 => some (.king, .black) | 63 => some (.rook, .black) | 35 => some (.pawn, .black)
    | _ => none
  stm := .white
  wcr := .both
  bcr := .both
  epFile := some 3

def c02ExMoves : List Move := [⟨36, 43, none⟩, ⟨4, 6, none⟩, ⟨4, 2, none⟩, ⟨7, 63, none⟩, ⟨4, 12, none⟩]

set_option maxRecDepth 100000 in
example : ((Board.tryFrom codeTables c02ExBd).map fun b =>
    Valid b.abs && b.ep == some 35 && c02ExMoves.all fun m => pseudoLegal b.abs m) = some true := by decide +kernel

/-- a board accepted by `try_from`, a valid position on it and a pseudo-legal move: everything
`C02_make_move_refines_valid` asks for -/
example : ∃ b m, Core codeTables b ∧ Valid b.abs = true ∧ pseudoLegal b.abs m = true ∧ isEnPassant b.abs m = true := by
  have h : ((Board.tryFrom codeTables c02ExBd).map fun b =>
      Valid b.abs && pseudoLegal b.abs ⟨36, 43, none⟩ && isEnPassant b.abs ⟨36, 43, none⟩) = some true := by
    set_option maxRecDepth 100000 in decide +kernel
  cases ht : Board.tryFrom codeTables c02ExBd with
  | none => rw [ht] at h; cases h
  | some b =>
    rw [ht] at h
    simp only [Option.map_some, Option.some.injEq, Bool.and_eq_true] at h
    exact ⟨b, _, (tryFrom_spec codeTables c02ExBd b ht).1, h.1.1, h.1.2, h.2⟩

set_option maxRecDepth 100000 in
/-- and the code's results on these five moves are square by square those of `apply` -/
example : ((Board.tryFrom codeTables c02ExBd).map fun b => c02ExMoves.all fun m =>
    match b.makeMoveNew codeTables m with
    | none => false
    | some b' => allSq.all fun s => b'.content s == (apply b.abs m).board s) = some true := by decide +kernel

end Chess.Props
