import ChessVerif.Lemmas.FenBoard
import ChessVerif.CodeTables
/-!
# C06 — FEN text: the writer's output is a standard six-field FEN describing the state, and the
reader gives the state back

`showBuilder` / `showBoard` model `impl Display for BoardBuilder` / `for Board`, `parseBuilder`
models `BoardBuilder::from_str` (`ChessVerif/Model/Text.lean`); `Fen.decode` is the independent
standard-FEN decoder of `ChessVerif/Spec/Fen.lean`.  All statements are for every builder state:
`pieces : Sq → Option (Piece × Color)` is an arbitrary function, equality of builder states is
equality of the five components with `pieces` compared on every square.
-/
namespace Chess.Props

/-- the unvalidated builder: rendering and re-parsing gives the same state back -/
theorem C06_builder_roundtrip (bd : Builder) :
    ∃ bd', parseBuilder (showBuilder bd) = .ok bd' ∧ (∀ s, bd'.pieces s = bd.pieces s) ∧
      bd'.stm = bd.stm ∧ bd'.wcr = bd.wcr ∧ bd'.bcr = bd.bcr ∧ bd'.epFile = bd.epFile :=
  parseBuilder_showBuilder bd

/-- the rendered text is a well-formed standard six-field FEN (accepted by the independent
decoder) whose placement, side-to-move and castling fields describe the state and whose en-passant
field denotes the just-advanced pawn (`getEnPassant`, the pawn's square): `Fen.decode` accepts in
that field only `-` or a target square on rank 3 / 6 behind such a pawn -/
theorem C06_display_wellformed (bd : Builder) :
    ∃ q : Pos, Fen.decode (showBuilder bd) = some q ∧ (∀ s, q.board s = bd.pieces s) ∧
      q.stm = bd.stm ∧
      q.castleK .white = bd.wcr.ks ∧ q.castleQ .white = bd.wcr.qs ∧
      q.castleK .black = bd.bcr.ks ∧ q.castleQ .black = bd.bcr.qs ∧
      q.ep = bd.getEnPassant :=
  decode_showBuilder bd

/-- the six space-separated fields of the rendered text, for both splitters (the reader's
`split(' ')` and the Spec's): placement (ranks 8..1 separated by `/`), side, castling, en passant,
and the constant clocks `0` and `1` -/
theorem C06_display_fields (bd : Builder) :
    Str.splitSpace (showBuilder bd) =
      [placementStr bd.pieces, sideStr bd.stm, castleField bd.wcr bd.bcr, epField bd.epShown,
        ['0'], ['1']] ∧
    Fen.splitOn ' ' (showBuilder bd) = Str.splitSpace (showBuilder bd) ∧
    Fen.splitOn '/' (placementStr bd.pieces) =
      [showRank bd.pieces 7, showRank bd.pieces 6, showRank bd.pieces 5, showRank bd.pieces 4,
       showRank bd.pieces 3, showRank bd.pieces 2, showRank bd.pieces 1, showRank bd.pieces 0] :=
  ⟨splitSpace_showBuilderWith bd bd.epShown, (splitSpace_eq _).symm,
    splitOn_slash_placementStr bd.pieces⟩

/-- the en-passant field (fourth field) is `-` when no file is recorded; otherwise it is the
text of the square `e` on the recorded file that the just-advanced pawn passed over: rank 3
(`getRank = 2`) when Black is to move (the pawn is White's, on rank 4), rank 6 (`getRank = 5`) when
White is to move; the pawn's square `getEnPassant` is the square in front of `e` -/
theorem C06_display_ep_standard (bd : Builder) :
    (bd.epFile = none → (Str.splitSpace (showBuilder bd))[3]? = some ['-']) ∧
    (∀ f, bd.epFile = some f → ∃ e : Sq,
      (Str.splitSpace (showBuilder bd))[3]? = some (showSquare e) ∧
      e.getFile = f ∧
      e.getRank = (match bd.stm with | .black => (2 : Fin 8) | .white => 5) ∧
      bd.getEnPassant = some (e.uforward bd.stm.other)) := by
  have ht : ∀ (c : Color) (f : Fin 8),
      ((mkSq c.other.fourthRank f).ubackward c.other).getFile = f ∧
      ((mkSq c.other.fourthRank f).ubackward c.other).getRank =
        (match c with | .black => (2 : Fin 8) | .white => 5) ∧
      ((mkSq c.other.fourthRank f).ubackward c.other).uforward c.other = mkSq c.other.fourthRank f := by
    intro c; cases c <;> decide
  unfold showBuilder
  rw [splitSpace_showBuilderWith bd bd.epShown, epShown_eq]
  constructor
  · intro h; rw [h]; rfl
  · intro f h
    obtain ⟨h1, h2, h3⟩ := ht bd.stm f
    refine ⟨_, by rw [h]; rfl, h1, h2, ?_⟩
    rw [h3]; unfold Builder.getEnPassant; rw [h]; rfl

/-- a `Board` is rendered by converting it to a builder and rendering that -/
theorem C06_board_display (b : Board) : showBoard b = showBuilder b.toBuilder := rfl

/-- parsing the text of a board (at builder level) gives back the board's builder state -/
theorem C06_parse_display_builder (b : Board) :
    ∃ bd', parseBuilder (showBoard b) = .ok bd' ∧ (∀ s, bd'.pieces s = b.toBuilder.pieces s) ∧
      bd'.stm = b.stm ∧ bd'.wcr = b.wcr ∧ bd'.bcr = b.bcr ∧ bd'.epFile = b.ep.map Sq.getFile :=
  parseBuilder_showBuilder b.toBuilder

/-- the text of a board is a standard FEN of the board's builder state -/
theorem C06_board_display_wellformed (b : Board) :
    ∃ q : Pos, Fen.decode (showBoard b) = some q ∧ (∀ s, q.board s = b.toBuilder.pieces s) ∧
      q.stm = b.stm ∧
      q.castleK .white = b.wcr.ks ∧ q.castleQ .white = b.wcr.qs ∧
      q.castleK .black = b.bcr.ks ∧ q.castleQ .black = b.bcr.qs ∧
      q.ep = b.toBuilder.getEnPassant :=
  decode_showBuilder b.toBuilder

/-- for a board accepted by `try_from` the decoded en-passant mark is the board's own `ep` field
(the pawn's square), the decoded men are what `piece_on` / `color_on` report -/
theorem C06_board_display_wellformed_accepted (T : Tables) (bd : Builder) (b : Board)
    (h : Board.tryFrom T bd = some b) :
    ∃ q : Pos, Fen.decode (showBoard b) = some q ∧
      (∀ s, q.board s = match b.pieceOn s, b.colorOn s with
        | some p, some c => some (p, c)
        | _, _ => none) ∧
      q.stm = b.stm ∧
      q.castleK .white = b.wcr.ks ∧ q.castleQ .white = b.wcr.qs ∧
      q.castleK .black = b.bcr.ks ∧ q.castleQ .black = b.bcr.qs ∧
      q.ep = b.ep := by
  obtain ⟨q, h1, h2, h3, h4, h5, h6, h7, h8⟩ := decode_showBuilder b.toBuilder
  exact ⟨q, h1, h2, h3, h4, h5, h6, h7, h8.trans (toBuilder_getEnPassant T bd b h)⟩

/-- the validated level: for every board `b` accepted by `Board::try_from` (any builder state
`bd`, any tables `T`), `Board::from_str(b.to_string())` returns exactly `b` (all sixteen fields:
bitboards, side, rights, en-passant square, pin / check caches and hash) -/
theorem C06_board_roundtrip (T : Tables) (bd : Builder) (b : Board)
    (h : Board.tryFrom T bd = some b) : parseBoard T (showBoard b) = .ok b :=
  parseBoard_showBoard T bd b h

/-- the core of `C06_board_roundtrip`: re-validating the builder view of an accepted board gives the same board -/
theorem C06_tryFrom_toBuilder (T : Tables) (bd : Builder) (b : Board)
    (h : Board.tryFrom T bd = some b) : Board.tryFrom T b.toBuilder = some b :=
  tryFrom_toBuilder T bd b h

/-- The same round trip for boards that were not produced by `try_from` but by `make_move` from such a
board.  It needs that `make_move` preserves "`b` is what `try_from` builds from `b.toBuilder`" (placement
invariants, from-scratch pin / check caches, the en-passant recording rule and `is_sane`), which belongs
to the move-making properties: for boards reached from a valid position it is
`C03_reached_fen_roundtrip` (`Props/C03Step.lean`). -/
def C06_board_roundtrip_reachable_full (T : Tables) : Prop :=
  ∀ (b b' : Board) (m : Move), Board.tryFrom T b.toBuilder = some b →
    m ∈ b.legalMoves T → b.makeMoveNew T m = some b' → parseBoard T (showBoard b') = .ok b'

/-! non-vacuity: two kings, a white rook on h1, a black pawn on d4, a white pawn
that has just advanced to e4 -/

def exBuilder : Builder where
  pieces s :=
    if s.val = 4 then some (.king, .white) else if s.val = 60 then some (.king, .black)
    else if s.val = 7 then some (.rook, .white)
    else if s.val = 28 then some (.pawn, .white) else if s.val = 27 then some (.pawn, .black)
    else none
  stm := .black
  wcr := ⟨true, false⟩
  bcr := .noRights
  epFile := some 4

example : showBuilder exBuilder = "4k3/8/8/8/3pP3/8/8/4K2R b K e3 0 1".toList := by decide
example : exBuilder.getEnPassant = some ⟨28, by decide⟩ := by decide
example : ∃ bd', parseBuilder "4k3/8/8/8/3pP3/8/8/4K2R b K e3 0 1".toList = .ok bd' ∧
    bd'.epFile = some 4 ∧ bd'.pieces ⟨28, by decide⟩ = some (.pawn, .white) := by
  have h : showBuilder exBuilder = "4k3/8/8/8/3pP3/8/8/4K2R b K e3 0 1".toList := by decide
  obtain ⟨bd', h1, h2, _, _, _, h3⟩ := C06_builder_roundtrip exBuilder
  rw [h] at h1
  exact ⟨bd', h1, h3, h2 _⟩

/-- the example state is accepted by `try_from` with the code's tables, its en-passant square is
recorded (a black pawn stands beside the pushed pawn), and the board-level round trip applies -/
example : ∃ b, Board.tryFrom codeTables exBuilder = some b ∧ b.ep = some ⟨28, by decide⟩ ∧
    parseBoard codeTables (showBoard b) = .ok b := by
  have h : ((Board.tryFrom codeTables exBuilder).map (·.ep)) = some (some ⟨28, by decide⟩) := by
    decide +kernel
  cases hb : Board.tryFrom codeTables exBuilder with
  | none => rw [hb] at h; cases h
  | some b =>
    rw [hb] at h
    simp only [Option.map_some, Option.some.injEq] at h
    exact ⟨b, rfl, h, C06_board_roundtrip _ _ _ hb⟩

end Chess.Props
