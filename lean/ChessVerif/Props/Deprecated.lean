import ChessVerif.Lemmas.Deprecated
import ChessVerif.Proofs.TablesOK
import ChessVerif.CodeTables
/-!
# The deprecated board mutators keep the representation consistent (C08 / C03 for edited boards)

`Board.setPiece`, `Board.clearSquare`, `Board.addCastleRights`, `Board.removeCastleRights`
(`Model/Deprecated.lean`) model `Board::set_piece`, `Board::clear_square`, `Board::add_castle_rights`,
`Board::remove_castle_rights`.  For every table set, board and argument:

* **C08 part.**  Under `Core T b` (bitboards consistent, raw `hash` = xor of the placement keys) every accepted
  edit returns a `Core` board; the position it denotes is the old one with square `s` overwritten
  (`Pos.put`), side, rights and ep mark untouched; hence `get_hash` of the result is the from-scratch hash of
  the edited position.  The rights mutators change nothing but the rights of the colour named.
* **C03 part.**  The result of an accepted edit has its cached `pinned` / `checkers` computed from scratch
  (`PinOK`, no hypothesis at all); if the edited position is `Valid` the result is `Good`, so every theorem
  about `Good` boards (checkers, pinned men, exact legal move generation, …) applies to it.
* **Refusal.**  `set_piece` / `clear_square` return `None` exactly when the side *not* to move is in check in
  the edited position, provided that side has exactly one king there and the kings do not touch
  (`update_pin_info` never looks at the enemy king; same hypothesis as `C03_checkers_exact`).

`Core` is the right hypothesis: `removeAt` trusts `piece_on` for the kind and the white board for the colour,
which removes the man standing on `s` only when the piece boards, colour boards and `combined` agree.
No table hypothesis is needed except for the refusal theorems.
-/
namespace Chess.Props
open Deprecated

set_option maxRecDepth 100000

/-! ### concrete boards for the non-vacuity examples -/

/-- the initial position as a builder state -/
def depStartBd : Builder where
  pieces s :=
    let back : Nat → Piece := fun f => match f with
      | 0 | 7 => .rook | 1 | 6 => .knight | 2 | 5 => .bishop | 3 => .queen | _ => .king
    if s.val < 8 then some (back s.val, .white) else if s.val < 16 then some (.pawn, .white)
    else if s.val < 48 then none else if s.val < 56 then some (.pawn, .black)
    else some (back (s.val - 56), .black)
  stm := .white
  wcr := .both
  bcr := .both
  epFile := none

/-- the board `try_from` builds from it with the tables of the code (whatever the regenerated Zobrist
keys are: no key-dependent literal appears here, so a harmless change of the keys breaks nothing) -/
def depStart : Board := (Board.tryFrom codeTables depStartBd).getD Board.blank

theorem depStart_tryFrom : Board.tryFrom codeTables depStartBd = some depStart := by
  unfold depStart
  cases h : Board.tryFrom codeTables depStartBd with
  | some b => rfl
  | none => exact absurd h (by decide +kernel)

theorem depStart_core : Core codeTables depStart := (tryFrom_spec _ _ _ depStart_tryFrom).1

/-- initial position with the white queen replaced by a black one (d1 = 3): accepted, White is in check -/
theorem depStart_set_d1 : (depStart.setPiece codeTables .queen .black 3).map (·.checkers) = some (BB.ofSq 3) := by
  decide +kernel

/-- initial position with a white queen put on e7 (52) instead of the pawn: refused, Black would be in check -/
theorem depStart_set_e7 : depStart.setPiece codeTables .queen .white 52 = none := by decide +kernel

/-- initial position without the e2 pawn (12): accepted -/
theorem depStart_clear_e2 : (depStart.clearSquare codeTables 12).isSome = true := by decide +kernel

/-! ### `Core` is preserved -/

/-- an accepted `set_piece` keeps the bitboards consistent and the raw hash equal to the xor of the
placement keys -/
theorem C08_setPiece_core {T : Tables} {b b' : Board} {p : Piece} {c : Color} {s : Sq} (hc : Core T b)
    (h : b.setPiece T p c s = some b') : Core T b' := (setPiece_spec hc h).1

example : ∃ b', Core codeTables depStart ∧ depStart.setPiece codeTables .queen .black 3 = some b' := by
  have h := depStart_set_d1
  cases he : depStart.setPiece codeTables .queen .black 3 with
  | none => rw [he] at h; cases h
  | some b' => exact ⟨b', depStart_core, rfl⟩

theorem C08_clearSquare_core {T : Tables} {b b' : Board} {s : Sq} (hc : Core T b)
    (h : b.clearSquare T s = some b') : Core T b' := (clearSquare_spec hc h).1

example : ∃ b', Core codeTables depStart ∧ depStart.clearSquare codeTables 12 = some b' := by
  obtain ⟨b', hb⟩ := Option.isSome_iff_exists.mp depStart_clear_e2
  exact ⟨b', depStart_core, hb⟩

/-- before the tail, too: the board handed to the flip/recompute tail already satisfies `Core` (the man on
`s`, if any, has been removed from exactly its piece board and its colour board) -/
theorem C08_removeAt_core {T : Tables} {b : Board} (hc : Core T b) (s : Sq) :
    Core T (Board.removeAt T b s) ∧
    ∀ t, (Board.removeAt T b s).content t = if t = s then none else b.content t := removeAt_spec hc s

example : Core codeTables depStart := depStart_core

/-- the hypothesis is needed: on a board whose `combined` misses a pawn bit (a2 = 8), `piece_on` reports
nothing, nothing is removed, and "setting" a white pawn there toggles the stray bit off: the result shows a
white *king* on a2 -/
theorem C08_setPiece_needs_core :
    (Board.setPiece codeTables { Board.blank with pawns := BB.ofSq 8 } .pawn .white 8).map
      (fun b => (b.pieceOn 8, b.colorOn 8)) = some (some .king, some .white) := by decide +kernel

/-! ### the position denoted -/

/-- the position after an accepted `set_piece`: `(p, c)` on `s`, every other square, the side to move, the
castling rights and the en-passant mark as before -/
theorem C08_setPiece_abs {T : Tables} {b b' : Board} {p : Piece} {c : Color} {s : Sq} (hc : Core T b)
    (h : b.setPiece T p c s = some b') :
    b'.abs.board = (fun q => if q = s then some (p, c) else b.abs.board q) ∧ b'.abs.stm = b.abs.stm ∧
    b'.abs.castleK = b.abs.castleK ∧ b'.abs.castleQ = b.abs.castleQ ∧ b'.abs.ep = b.abs.ep := by
  rw [(setPiece_spec hc h).2.2]
  exact ⟨rfl, rfl, rfl, rfl, rfl⟩

theorem C08_setPiece_abs_eq {T : Tables} {b b' : Board} {p : Piece} {c : Color} {s : Sq} (hc : Core T b)
    (h : b.setPiece T p c s = some b') : b'.abs = b.abs.put s (some (p, c)) := (setPiece_spec hc h).2.2

example : ∃ b', Core codeTables depStart ∧ depStart.setPiece codeTables .queen .black 3 = some b' ∧
    b'.abs.board 3 = some (.queen, .black) ∧ b'.abs.board 4 = some (.king, .white) := by
  have h := depStart_set_d1
  cases he : depStart.setPiece codeTables .queen .black 3 with
  | none => rw [he] at h; cases h
  | some b' =>
    refine ⟨b', depStart_core, rfl, ?_, ?_⟩
    · rw [(C08_setPiece_abs depStart_core he).1]; rfl
    · have hc := (abs_board depStart).trans (tryFrom_spec _ _ _ depStart_tryFrom).2.1
      rw [(C08_setPiece_abs depStart_core he).1, hc]
      rfl

theorem C08_clearSquare_abs {T : Tables} {b b' : Board} {s : Sq} (hc : Core T b)
    (h : b.clearSquare T s = some b') :
    b'.abs.board = (fun q => if q = s then none else b.abs.board q) ∧ b'.abs.stm = b.abs.stm ∧
    b'.abs.castleK = b.abs.castleK ∧ b'.abs.castleQ = b.abs.castleQ ∧ b'.abs.ep = b.abs.ep := by
  rw [(clearSquare_spec hc h).2.2]
  exact ⟨rfl, rfl, rfl, rfl, rfl⟩

theorem C08_clearSquare_abs_eq {T : Tables} {b b' : Board} {s : Sq} (hc : Core T b)
    (h : b.clearSquare T s = some b') : b'.abs = b.abs.put s none := (clearSquare_spec hc h).2.2

example : ∃ b', Core codeTables depStart ∧ depStart.clearSquare codeTables 12 = some b' ∧
    b'.abs.board 12 = none ∧ b'.abs.board 11 = some (.pawn, .white) := by
  obtain ⟨b', hb⟩ := Option.isSome_iff_exists.mp depStart_clear_e2
  refine ⟨b', depStart_core, hb, ?_, ?_⟩
  · rw [(C08_clearSquare_abs depStart_core hb).1]; rfl
  · have hc := (abs_board depStart).trans (tryFrom_spec _ _ _ depStart_tryFrom).2.1
    rw [(C08_clearSquare_abs depStart_core hb).1, hc]
    rfl

/-! ### the hash -/

/-- `get_hash` after an accepted `set_piece` is the from-scratch hash of the position the result denotes,
which is the edited position -/
theorem C08_setPiece_hash {T : Tables} {b b' : Board} {p : Piece} {c : Color} {s : Sq} (hc : Core T b)
    (h : b.setPiece T p c s = some b') : b'.getHash T = b'.abs.hashOf T :=
  getHash_eq_hashOf T b' (C08_setPiece_core hc h).hash

theorem C08_setPiece_hash_edited {T : Tables} {b b' : Board} {p : Piece} {c : Color} {s : Sq} (hc : Core T b)
    (h : b.setPiece T p c s = some b') : b'.getHash T = (b.abs.put s (some (p, c))).hashOf T := by
  rw [C08_setPiece_hash hc h, C08_setPiece_abs_eq hc h]

example : ∃ b', Core codeTables depStart ∧ depStart.setPiece codeTables .queen .black 3 = some b' ∧
    b'.getHash codeTables ≠ depStart.getHash codeTables := by
  have h : (depStart.setPiece codeTables .queen .black 3).map
      (fun b' => decide (b'.getHash codeTables ≠ depStart.getHash codeTables)) = some true := by decide +kernel
  cases he : depStart.setPiece codeTables .queen .black 3 with
  | none => rw [he] at h; cases h
  | some b' =>
    rw [he] at h
    exact ⟨b', depStart_core, rfl, of_decide_eq_true (Option.some.inj h)⟩

theorem C08_clearSquare_hash {T : Tables} {b b' : Board} {s : Sq} (hc : Core T b)
    (h : b.clearSquare T s = some b') : b'.getHash T = b'.abs.hashOf T :=
  getHash_eq_hashOf T b' (C08_clearSquare_core hc h).hash

theorem C08_clearSquare_hash_edited {T : Tables} {b b' : Board} {s : Sq} (hc : Core T b)
    (h : b.clearSquare T s = some b') : b'.getHash T = (b.abs.put s none).hashOf T := by
  rw [C08_clearSquare_hash hc h, C08_clearSquare_abs_eq hc h]

example : ∃ b', Core codeTables depStart ∧ depStart.clearSquare codeTables 12 = some b' := by
  obtain ⟨b', hb⟩ := Option.isSome_iff_exists.mp depStart_clear_e2
  exact ⟨b', depStart_core, hb⟩

/-- two edit orders reaching the same placement give the same `get_hash` -/
theorem C08_edit_path_independent {T : Tables} {b₁ b₂ : Board} (h₁ : Core T b₁) (h₂ : Core T b₂)
    (he : b₁.abs = b₂.abs) : b₁.getHash T = b₂.getHash T := by
  rw [getHash_eq_hashOf T b₁ h₁.hash, getHash_eq_hashOf T b₂ h₂.hash, he]

/-- clear e2 then put a knight on e4, or the other way round: same hash -/
example :
    ((depStart.clearSquare codeTables 12).bind fun b => b.setPiece codeTables .knight .white 28).map
      (Board.getHash codeTables) =
    ((depStart.setPiece codeTables .knight .white 28).bind fun b => b.clearSquare codeTables 12).map
      (Board.getHash codeTables) ∧
    ((depStart.clearSquare codeTables 12).bind fun b => b.setPiece codeTables .knight .white 28).isSome = true := by
  decide +kernel

/-! ### castling rights -/

/-- `add_castle_rights` touches nothing `Core` talks about -/
theorem C08_addCastleRights_core {T : Tables} {b : Board} (hc : Core T b) (c : Color) (x : CastleRights) :
    Core T (b.addCastleRights c x) :=
  (SamePl.core_iff T (samePl_setCastleRights b c _)).mpr hc

theorem C08_removeCastleRights_core {T : Tables} {b : Board} (hc : Core T b) (c : Color) (x : CastleRights) :
    Core T (b.removeCastleRights c x) :=
  (SamePl.core_iff T (samePl_setCastleRights b c _)).mpr hc

example : Core codeTables (depStart.removeCastleRights .white ⟨true, false⟩) :=
  C08_removeCastleRights_core depStart_core _ _

example : Core codeTables (depStart.addCastleRights .white ⟨true, false⟩) :=
  C08_addCastleRights_core depStart_core _ _

/-- the rights of colour `c` become `old.add x`, the other colour's rights, the men, the side and the ep mark
stay -/
theorem C08_addCastleRights_abs (b : Board) (c : Color) (x : CastleRights) :
    (∀ d, (b.addCastleRights c x).castleRights d =
      if d = c then (b.castleRights c).add x else b.castleRights d) ∧
    (b.addCastleRights c x).abs =
      { b.abs with
        castleK := fun d => if d = c then (b.abs.castleK c || x.ks) else b.abs.castleK d,
        castleQ := fun d => if d = c then (b.abs.castleQ c || x.qs) else b.abs.castleQ d } :=
  ⟨fun d => setCastleRights_castleRights b c d _, setCastleRights_abs b c _⟩

/-- the rights of colour `c` become `old.remove x` -/
theorem C08_removeCastleRights_abs (b : Board) (c : Color) (x : CastleRights) :
    (∀ d, (b.removeCastleRights c x).castleRights d =
      if d = c then (b.castleRights c).remove x else b.castleRights d) ∧
    (b.removeCastleRights c x).abs =
      { b.abs with
        castleK := fun d => if d = c then (b.abs.castleK c && !x.ks) else b.abs.castleK d,
        castleQ := fun d => if d = c then (b.abs.castleQ c && !x.qs) else b.abs.castleQ d } :=
  ⟨fun d => setCastleRights_castleRights b c d _, setCastleRights_abs b c _⟩

example : (depStart.removeCastleRights .white ⟨true, false⟩).abs.castleK .white = false ∧
    (depStart.removeCastleRights .white ⟨true, false⟩).abs.castleQ .white = true ∧
    (depStart.removeCastleRights .white ⟨true, false⟩).abs.castleK .black = true := by decide +kernel

theorem C08_addCastleRights_hash {T : Tables} {b : Board} (hc : Core T b) (c : Color) (x : CastleRights) :
    (b.addCastleRights c x).getHash T = (b.addCastleRights c x).abs.hashOf T :=
  getHash_eq_hashOf T _ (C08_addCastleRights_core hc c x).hash

theorem C08_removeCastleRights_hash {T : Tables} {b : Board} (hc : Core T b) (c : Color) (x : CastleRights) :
    (b.removeCastleRights c x).getHash T = (b.removeCastleRights c x).abs.hashOf T :=
  getHash_eq_hashOf T _ (C08_removeCastleRights_core hc c x).hash

example : (depStart.removeCastleRights .white ⟨true, false⟩).getHash codeTables ≠ depStart.getHash codeTables := by
  decide +kernel

/-- the cached check/pin fields do not depend on the rights -/
theorem C03_addCastleRights_pinOK {T : Tables} {b : Board} (hp : b.PinOK T) (c : Color) (x : CastleRights) :
    (b.addCastleRights c x).PinOK T := setCastleRights_pinOK hp c _

theorem C03_removeCastleRights_pinOK {T : Tables} {b : Board} (hp : b.PinOK T) (c : Color) (x : CastleRights) :
    (b.removeCastleRights c x).PinOK T := setCastleRights_pinOK hp c _

example : depStart.PinOK codeTables := Board.PinOK.tryFrom depStart_tryFrom

/-- a `Good` board stays `Good` when the new rights still describe a valid position (they always do after
`remove_castle_rights`; after `add_castle_rights` king and rook must stand on their home squares) -/
theorem C03_addCastleRights_good {T : Tables} {b : Board} (hg : b.Good T) (c : Color) (x : CastleRights)
    (hv : Valid (b.addCastleRights c x).abs = true) : (b.addCastleRights c x).Good T :=
  ⟨C08_addCastleRights_core hg.1 c x, C03_addCastleRights_pinOK hg.2.1 c x, hv⟩

theorem C03_removeCastleRights_good {T : Tables} {b : Board} (hg : b.Good T) (c : Color) (x : CastleRights)
    (hv : Valid (b.removeCastleRights c x).abs = true) : (b.removeCastleRights c x).Good T :=
  ⟨C08_removeCastleRights_core hg.1 c x, C03_removeCastleRights_pinOK hg.2.1 c x, hv⟩

theorem depStart_good : depStart.Good codeTables :=
  Board.Good.tryFrom depStart_tryFrom (by rw [abs_of_tryFrom depStart_tryFrom rfl]; decide +kernel)

example : depStart.Good codeTables ∧ Valid (depStart.removeCastleRights .white ⟨true, false⟩).abs = true :=
  ⟨depStart_good, by rw [(C08_removeCastleRights_abs ..).2, abs_of_tryFrom depStart_tryFrom rfl]; decide +kernel⟩

/-! ### cached fields, `Good` -/

/-- the last statement of `set_piece` is `update_pin_info`: the cached fields of the result are the
from-scratch ones, whatever the board edited -/
theorem C03_setPiece_pinOK {T : Tables} {b b' : Board} {p : Piece} {c : Color} {s : Sq}
    (h : b.setPiece T p c s = some b') : b'.PinOK T := (editTail_fields h).2.2

theorem C03_clearSquare_pinOK {T : Tables} {b b' : Board} {s : Sq}
    (h : b.clearSquare T s = some b') : b'.PinOK T := (editTail_fields h).2.2

example : ∃ b', depStart.setPiece codeTables .queen .black 3 = some b' ∧ b'.checkers = BB.ofSq 3 := by
  have h := depStart_set_d1
  cases he : depStart.setPiece codeTables .queen .black 3 with
  | none => rw [he] at h; cases h
  | some b' => rw [he] at h; exact ⟨b', rfl, Option.some.inj h⟩

example : ∃ b', depStart.clearSquare codeTables 12 = some b' :=
  Option.isSome_iff_exists.mp depStart_clear_e2

/-- what an accepted edit returns, with no hypothesis: `update_pin_info` of the edited board (the two flips
of the side to move cancel) -/
theorem C03_setPiece_eq {T : Tables} {b b' : Board} {p : Piece} {c : Color} {s : Sq}
    (h : b.setPiece T p c s = some b') :
    b' = Board.updatePinInfo T ((Board.removeAt T b s).xor T p (BB.ofSq s) c) := (editTail_some h).2

theorem C03_clearSquare_eq {T : Tables} {b b' : Board} {s : Sq} (h : b.clearSquare T s = some b') :
    b' = Board.updatePinInfo T (Board.removeAt T b s) := (editTail_some h).2

/-- an accepted `set_piece` on a consistent board that yields a valid position yields a `Good`
board: every theorem about `Good` boards applies to it -/
theorem C03_setPiece_good {T : Tables} {b b' : Board} {p : Piece} {c : Color} {s : Sq} (hc : Core T b)
    (h : b.setPiece T p c s = some b') (hv : Valid b'.abs = true) : b'.Good T :=
  ⟨C08_setPiece_core hc h, C03_setPiece_pinOK h, hv⟩

theorem C03_clearSquare_good {T : Tables} {b b' : Board} {s : Sq} (hc : Core T b)
    (h : b.clearSquare T s = some b') (hv : Valid b'.abs = true) : b'.Good T :=
  ⟨C08_clearSquare_core hc h, C03_clearSquare_pinOK h, hv⟩

/-- in terms of the edited position -/
theorem C03_setPiece_good' {T : Tables} {b b' : Board} {p : Piece} {c : Color} {s : Sq} (hc : Core T b)
    (h : b.setPiece T p c s = some b') (hv : Valid (b.abs.put s (some (p, c))) = true) : b'.Good T :=
  C03_setPiece_good hc h (by rw [C08_setPiece_abs_eq hc h]; exact hv)

theorem C03_clearSquare_good' {T : Tables} {b b' : Board} {s : Sq} (hc : Core T b)
    (h : b.clearSquare T s = some b') (hv : Valid (b.abs.put s none) = true) : b'.Good T :=
  C03_clearSquare_good hc h (by rw [C08_clearSquare_abs_eq hc h]; exact hv)

/-- initial position with the e2 pawn replaced by a white knight: valid, so the result is `Good` and, for
instance, its cached checkers are the specification's -/
example : ∃ b', Core codeTables depStart ∧ depStart.setPiece codeTables .knight .white 12 = some b' ∧
    Valid b'.abs = true ∧ b'.Good codeTables ∧ (b'.checkers = 0#64 ↔ inCheck b'.abs b'.stm = false) := by
  have h : (depStart.setPiece codeTables .knight .white 12).isSome = true := by decide +kernel
  obtain ⟨b', hb⟩ := Option.isSome_iff_exists.mp h
  have hv : Valid (depStart.abs.put 12 (some (.knight, .white))) = true := by
    rw [abs_of_tryFrom depStart_tryFrom rfl]; decide +kernel
  have hg := C03_setPiece_good' depStart_core hb hv
  exact ⟨b', depStart_core, hb, hg.2.2, hg, Board.Good.checkers_zero_iff codeTables_ok hg⟩

example : ∃ b', Core codeTables depStart ∧ depStart.clearSquare codeTables 12 = some b' ∧
    Valid b'.abs = true ∧ b'.Good codeTables := by
  obtain ⟨b', hb⟩ := Option.isSome_iff_exists.mp depStart_clear_e2
  have hv : Valid (depStart.abs.put 12 none) = true := by
    rw [abs_of_tryFrom depStart_tryFrom rfl]; decide +kernel
  have hg := C03_clearSquare_good' depStart_core hb hv
  exact ⟨b', depStart_core, hb, hg.2.2, hg⟩

/-! ### refusal -/

/-- with no hypothesis: `None` iff `update_pin_info` of the edited board with the side flipped reports a
checker -/
theorem C03_setPiece_none_iff (T : Tables) (b : Board) (p : Piece) (c : Color) (s : Sq) :
    b.setPiece T p c s = none ↔
      (Board.updatePinInfo T { (Board.removeAt T b s).xor T p (BB.ofSq s) c with
        stm := ((Board.removeAt T b s).xor T p (BB.ofSq s) c).stm.other }).checkers ≠ 0#64 :=
  editTail_none_iff T _

theorem C03_clearSquare_none_iff (T : Tables) (b : Board) (s : Sq) :
    b.clearSquare T s = none ↔
      (Board.updatePinInfo T { Board.removeAt T b s with stm := (Board.removeAt T b s).stm.other }).checkers
        ≠ 0#64 :=
  editTail_none_iff T _

/-- `set_piece` refuses exactly when the side not to move would be in check in the edited position.
Hypotheses on the edited position: that side has exactly one king, and the mover's king(s) do not stand next
to it (`update_pin_info` does not look at the enemy king, the specification's `inCheck` does) -/
theorem C03_setPiece_refuses {T : Tables} (hT : TablesOK T) {b : Board} (hc : Core T b) (p : Piece) (c : Color)
    (s : Sq) (hk : count (b.abs.put s (some (p, c))) (· == (.king, b.stm.other)) = 1)
    (hkk : ∀ x k, (b.abs.put s (some (p, c))).board x = some (.king, b.stm) →
      (b.abs.put s (some (p, c))).board k = some (.king, b.stm.other) →
      attacks (b.abs.put s (some (p, c))) x k = false) :
    b.setPiece T p c s = none ↔ inCheck (b.abs.put s (some (p, c))) b.stm.other = true :=
  setPiece_refuses hT hc p c s hk hkk

/-- the hypotheses hold for the white queen put on e7 in the initial position; the edit is refused and Black
would indeed be in check -/
example : Core codeTables depStart ∧
    count (depStart.abs.put 52 (some (.queen, .white))) (· == (.king, depStart.stm.other)) = 1 ∧
    (∀ x k, (depStart.abs.put 52 (some (.queen, .white))).board x = some (.king, depStart.stm) →
      (depStart.abs.put 52 (some (.queen, .white))).board k = some (.king, depStart.stm.other) →
      attacks (depStart.abs.put 52 (some (.queen, .white))) x k = false) ∧
    depStart.setPiece codeTables .queen .white 52 = none ∧
    inCheck (depStart.abs.put 52 (some (.queen, .white))) depStart.stm.other = true := by
  rw [(tryFrom_spec _ _ _ depStart_tryFrom).2.2.1, abs_of_tryFrom depStart_tryFrom rfl]
  -- the only kings stand on e1 and e8
  exact ⟨depStart_core, by decide +kernel,
    kingAttack_false_of_unique (x0 := 4) (k0 := 60) (by decide +kernel) (by decide +kernel) (by decide +kernel),
    depStart_set_e7, by decide +kernel⟩

theorem C03_clearSquare_refuses {T : Tables} (hT : TablesOK T) {b : Board} (hc : Core T b) (s : Sq)
    (hk : count (b.abs.put s none) (· == (.king, b.stm.other)) = 1)
    (hkk : ∀ x k, (b.abs.put s none).board x = some (.king, b.stm) →
      (b.abs.put s none).board k = some (.king, b.stm.other) → attacks (b.abs.put s none) x k = false) :
    b.clearSquare T s = none ↔ inCheck (b.abs.put s none) b.stm.other = true :=
  clearSquare_refuses hT hc s hk hkk

/-- White Ke1, Re2; Black Ke8, Be7, White to move: clearing e7 (52) would leave Black, not to move, in
check from the rook, so `clear_square` refuses -/
def depPinBd : Builder where
  pieces s := match s.val with
    | 4 => some (.king, .white) | 12 => some (.rook, .white)
    | 60 => some (.king, .black) | 52 => some (.bishop, .black) | _ => none
  stm := .white
  wcr := .noRights
  bcr := .noRights
  epFile := none

example : ∃ b, Board.tryFrom codeTables depPinBd = some b ∧ Core codeTables b ∧
    b.clearSquare codeTables 52 = none := by
  have h : (Board.tryFrom codeTables depPinBd).map (fun b => b.clearSquare codeTables 52) = some none := by
    decide +kernel
  cases hb : Board.tryFrom codeTables depPinBd with
  | none => rw [hb] at h; cases h
  | some b =>
    rw [hb] at h
    exact ⟨b, rfl, (tryFrom_spec _ _ _ hb).1, Option.some.inj h⟩

/-- the hypotheses of `C03_clearSquare_refuses` on the initial position with e2 cleared (accepted: Black is
not in check there) -/
example : Core codeTables depStart ∧ count (depStart.abs.put 12 none) (· == (.king, depStart.stm.other)) = 1 ∧
    (∀ x k, (depStart.abs.put 12 none).board x = some (.king, depStart.stm) →
      (depStart.abs.put 12 none).board k = some (.king, depStart.stm.other) →
      attacks (depStart.abs.put 12 none) x k = false) ∧
    inCheck (depStart.abs.put 12 none) depStart.stm.other = false := by
  rw [(tryFrom_spec _ _ _ depStart_tryFrom).2.2.1, abs_of_tryFrom depStart_tryFrom rfl]
  exact ⟨depStart_core, by decide +kernel,
    kingAttack_false_of_unique (x0 := 4) (k0 := 60) (by decide +kernel) (by decide +kernel) (by decide +kernel), by decide +kernel⟩

/-- `rook_square_to_castle_rights`: a-file → queen side, h-file → king side, otherwise none -/
theorem C08_rookSquareToCastleRights (s : Sq) :
    rookSquareToCastleRights s =
      ⟨decide (s.val % 8 = 7), decide (s.val % 8 = 0)⟩ := by
  revert s; decide +kernel

end Chess.Props
