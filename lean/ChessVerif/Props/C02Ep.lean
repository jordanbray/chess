import ChessVerif.Lemmas.EpBounds
import ChessVerif.Props.C02
import ChessVerif.Props.C06
/-!
# C02 / C06 — when the en-passant opportunity is recorded, and what the FEN text shows of it

`Pos.ep = some s` means "the last move was a double pawn step landing on `s`" (`s` is the square OF the
pawn).  `apply` sets the mark after every double step; `norm` is the library's recording policy (keep the
mark only if a pawn of the side to move stands beside the pushed pawn) and `make_move_new` yields
`norm (apply position move)` (`C02_make_move_abs`).  This file proves the two bounds the property texts put
on that policy, for ALL positions and moves:

* upper bound ("recorded only immediately after a double pawn push that lands beside an enemy pawn"):
  `C02_ep_recorded_only_after_double_push`, `C02_ep_recorded_iff`, `C02_ep_recorded_is_fide_double_push`;
* lower bound ("always when that pawn can legally be captured en passant"):
  `C02_ep_recorded_when_pseudo_capturable`, `C02_ep_recorded_when_capturable`, `C02_norm_id_when_capturable`,
  `C02_ep_recorded_after_move_when_capturable`.  No hypothesis on the position is needed: a pawn move that
  changes file onto an empty square can only be the en-passant clause of `pseudoLegal`, and that clause puts
  the capturing pawn beside the marked one;
* the same two bounds for the code's `make_move_new` (`C02_model_…`) and for the text `Board`'s `Display`
  prints after such a move (`C06_fen_…`): the text decodes, by the independent standard-FEN decoder, to the
  very position of the board, so the en-passant field is `-` unless the move was a double push and is the
  passed-over square whenever a legal en-passant capture exists.
-/
namespace Chess.Props

/-! ### (A) upper bound, specification level -/

/-- (A) if the recording policy keeps a mark `s` after move `m`, then `m` was a double pawn step, `s` is its
destination, and a pawn of the side now to move stands on the same rank on an adjacent file.  All `p`, `m`,
`s`; `m` need not even be pseudo-legal. -/
theorem C02_ep_recorded_only_after_double_push (p : Pos) (m : Move) (s : Sq)
    (h : (norm (apply p m)).ep = some s) :
    isDoubleStep p m = true ∧ s = m.dst ∧
      ∃ t : Sq, t.rank = s.rank ∧ (t.file - s.file).natAbs = 1 ∧
        (apply p m).has t .pawn (apply p m).stm = true :=
  (ep_recorded_iff p m s).mp h

/-- (A') the bound is exact: the mark `s` is kept after `m` if and only if `m` is a double pawn step to `s`
and a pawn of the side now to move stands beside `s` -/
theorem C02_ep_recorded_iff (p : Pos) (m : Move) (s : Sq) :
    (norm (apply p m)).ep = some s ↔
      (isDoubleStep p m = true ∧ s = m.dst ∧
        ∃ t : Sq, t.rank = s.rank ∧ (t.file - s.file).natAbs = 1 ∧
          (apply p m).has t .pawn (apply p m).stm = true) :=
  ep_recorded_iff p m s

/-- (A'') for a pseudo-legal `m` the double step is the FIDE double push (a pawn of the mover, from its start
rank, two squares straight ahead), and the pawn beside the destination is an enemy pawn that stood there
before the move and still stands there after it -/
theorem C02_ep_recorded_is_fide_double_push (p : Pos) (m : Move) (s : Sq) (hpl : pseudoLegal p m = true)
    (h : (norm (apply p m)).ep = some s) :
    s = m.dst ∧ p.board m.src = some (.pawn, p.stm) ∧ m.dst.file = m.src.file ∧
      m.src.rank = p.stm.pawnRank ∧ m.dst.rank = p.stm.pawnRank + 2 * p.stm.fwd ∧
      ∃ t : Sq, t.rank = m.dst.rank ∧ (t.file - m.dst.file).natAbs = 1 ∧
        p.board t = some (.pawn, p.stm.other) ∧ (apply p m).board t = some (.pawn, p.stm.other) :=
  ep_recorded_shape hpl h

/-- without a double step nothing is recorded -/
theorem C02_ep_none_unless_double_push (p : Pos) (m : Move) (h : isDoubleStep p m = false) :
    (norm (apply p m)).ep = none :=
  norm_apply_ep_none h

/-! ### (B) lower bound, specification level -/

/-- (B, strong form) whenever an en-passant capture is pseudo-legal in `q` (no hypothesis on `q`), the
recording policy keeps the mark -/
theorem C02_ep_recorded_when_pseudo_capturable (q : Pos)
    (h : ∃ m, pseudoLegal q m = true ∧ isEnPassant q m = true) : (norm q).ep = q.ep ∧ q.ep.isSome = true := by
  obtain ⟨m, hpl, he⟩ := h
  exact ep_kept_of_pseudoLegal hpl he

/-- (B) whenever the rules allow an en-passant capture in `q`, the recording policy keeps the mark -/
theorem C02_ep_recorded_when_capturable (q : Pos)
    (h : ∃ m, legal q m = true ∧ isEnPassant q m = true) : (norm q).ep = q.ep ∧ q.ep.isSome = true := by
  obtain ⟨m, hl, he⟩ := h
  exact ep_kept_of_pseudoLegal (Closure.legal_pseudo hl) he

/-- (B') in that case the policy changes nothing at all: the recorded position is the position -/
theorem C02_norm_id_when_capturable (q : Pos)
    (h : ∃ m, pseudoLegal q m = true ∧ isEnPassant q m = true) : norm q = q := by
  obtain ⟨m, hpl, he⟩ := h
  exact norm_eq_of_pseudoLegal_ep hpl he

/-- (B'') after a move: if an en-passant capture is legal in the successor position, the mark recorded
after the move is the destination of that move (which was a double push) -/
theorem C02_ep_recorded_after_move_when_capturable (p : Pos) (m : Move)
    (h : ∃ m', legal (apply p m) m' = true ∧ isEnPassant (apply p m) m' = true) :
    (norm (apply p m)).ep = some m.dst ∧ (apply p m).ep = some m.dst ∧ isDoubleStep p m = true := by
  obtain ⟨h1, h2⟩ := C02_ep_recorded_when_capturable _ h
  cases he : (apply p m).ep with
  | none => rw [he] at h2; cases h2
  | some s =>
    obtain ⟨hd, hs⟩ := apply_ep_some he
    subst hs
    exact ⟨h1.trans he, rfl, hd⟩

/-! ### (C) the code's `make_move_new` -/

/-- (C1) `make_move_new` on a valid position with a legal move records an ep square `s` only if the move
was a double pawn step to `s` and a pawn of the side now to move stands beside `s` on the new board -/
theorem C02_model_ep_only_after_double_push (T : Tables) (hT : TablesOK T) (b : Board) (hc : Core T b)
    (m : Move) (hv : Valid b.abs = true) (hl : legal b.abs m = true) (b' : Board)
    (h : b.makeMoveNew T m = some b') (s : Sq) (hs : b'.abs.ep = some s) :
    isDoubleStep b.abs m = true ∧ s = m.dst ∧
      ∃ t : Sq, t.rank = s.rank ∧ (t.file - s.file).natAbs = 1 ∧ b'.abs.has t .pawn b'.abs.stm = true := by
  have e := (makeMoveNew_abs_valid hT hc hv (Closure.legal_pseudo hl) h).1
  rw [e] at hs ⊢
  exact (ep_recorded_iff _ _ _).mp hs

/-- (C1') the same for a pseudo-legal move under the two side conditions of `C02_make_move_abs` -/
theorem C02_model_ep_only_after_double_push_weak (T : Tables) (hT : TablesOK T) (b : Board) (hc : Core T b)
    (m : Move) (hpl : pseudoLegal b.abs m = true) (hep : b.abs.EpSane) (hrs : b.abs.RightsSane) (b' : Board)
    (h : b.makeMoveNew T m = some b') (s : Sq) (hs : b'.abs.ep = some s) :
    isDoubleStep b.abs m = true ∧ s = m.dst ∧
      ∃ t : Sq, t.rank = s.rank ∧ (t.file - s.file).natAbs = 1 ∧ b'.abs.has t .pawn b'.abs.stm = true := by
  have e := (PlayInv.move hT ⟨hc, hep, hrs⟩ hpl h).2
  rw [e] at hs ⊢
  exact (ep_recorded_iff _ _ _).mp hs

/-- (C1'') no double step, no ep square -/
theorem C02_model_ep_none_unless_double_push (T : Tables) (hT : TablesOK T) (b : Board) (hc : Core T b)
    (m : Move) (hv : Valid b.abs = true) (hl : legal b.abs m = true) (b' : Board)
    (h : b.makeMoveNew T m = some b') (hd : isDoubleStep b.abs m = false) : b'.abs.ep = none := by
  rw [(makeMoveNew_abs_valid hT hc hv (Closure.legal_pseudo hl) h).1]
  exact C02_ep_none_unless_double_push _ _ hd

/-- (C2) if the rules allow an en-passant capture in the successor position `apply b.abs m`, then
`make_move_new` records the mark: the new board's ep square is the successor's, namely the destination of
`m`; indeed the new board's position is the successor position itself, nothing dropped -/
theorem C02_model_ep_when_capturable (T : Tables) (hT : TablesOK T) (b : Board) (hc : Core T b)
    (m : Move) (hv : Valid b.abs = true) (hl : legal b.abs m = true) (b' : Board)
    (h : b.makeMoveNew T m = some b')
    (hcap : ∃ m', legal (apply b.abs m) m' = true ∧ isEnPassant (apply b.abs m) m' = true) :
    b'.abs.ep = (apply b.abs m).ep ∧ b'.abs.ep = some m.dst ∧ b'.abs = apply b.abs m := by
  have e := (makeMoveNew_abs_valid hT hc hv (Closure.legal_pseudo hl) h).1
  obtain ⟨m', hl', he'⟩ := hcap
  have hn := norm_eq_of_pseudoLegal_ep (Closure.legal_pseudo hl') he'
  have h3 := (C02_ep_recorded_after_move_when_capturable b.abs m ⟨m', hl', he'⟩).2.1
  rw [e, hn]
  exact ⟨rfl, h3, rfl⟩

/-- (C2') read on the new board alone: the capture that was legal in the successor position is legal on
the board `make_move_new` returns -/
theorem C02_model_ep_capture_still_legal (T : Tables) (hT : TablesOK T) (b : Board) (hc : Core T b)
    (m : Move) (hv : Valid b.abs = true) (hl : legal b.abs m = true) (b' : Board)
    (h : b.makeMoveNew T m = some b') (m' : Move)
    (hl' : legal (apply b.abs m) m' = true) (he' : isEnPassant (apply b.abs m) m' = true) :
    legal b'.abs m' = true ∧ isEnPassant b'.abs m' = true := by
  rw [(C02_model_ep_when_capturable T hT b hc m hv hl b' h ⟨m', hl', he'⟩).2.2]
  exact ⟨hl', he'⟩

/-! ### (D) the FEN text after a move -/

/-- (D0) a board whose ep mark is consistent (`Pos.EpSane`: an enemy pawn on its fourth rank …) prints a text
that the independent standard-FEN decoder maps to exactly the board's position; in particular the decoded
ep mark is the board's ep square -/
theorem C06_board_display_decodes_of_epSane (b : Board) (h : b.abs.EpSane) :
    Fen.decode (showBoard b) = some b.abs :=
  decode_showBoard_of_epSane h

/-- (D1) the text of the board returned by `make_move_new` (valid position, legal move) decodes to that
board's position, which is `norm (apply position move)`; its ep mark is the board's `ep` -/
theorem C06_fen_decodes_after_move (T : Tables) (hT : TablesOK T) (b : Board) (hc : Core T b)
    (m : Move) (hv : Valid b.abs = true) (hl : legal b.abs m = true) (b' : Board)
    (h : b.makeMoveNew T m = some b') :
    Fen.decode (showBoard b') = some b'.abs ∧ b'.abs = norm (apply b.abs m) := by
  obtain ⟨e, hs⟩ := makeMoveNew_abs_valid hT hc hv (Closure.legal_pseudo hl) h
  exact ⟨decode_showBoard_of_epSane hs, e⟩

/-- (D2) the en-passant field is `-` unless the last move was a double push: the decoded mark is `none`, and
the fourth space-separated field of the text is literally `-` -/
theorem C06_fen_ep_dash_unless_double_push (T : Tables) (hT : TablesOK T) (b : Board) (hc : Core T b)
    (m : Move) (hv : Valid b.abs = true) (hl : legal b.abs m = true) (b' : Board)
    (h : b.makeMoveNew T m = some b') (hd : isDoubleStep b.abs m = false) :
    (∃ q : Pos, Fen.decode (showBoard b') = some q ∧ q.ep = none) ∧
      (Str.splitSpace (showBoard b'))[3]? = some ['-'] := by
  have hn : b'.ep = none := C02_model_ep_none_unless_double_push T hT b hc m hv hl b' h hd
  refine ⟨⟨b'.abs, (C06_fen_decodes_after_move T hT b hc m hv hl b' h).1, hn⟩, ?_⟩
  apply (C06_display_ep_standard b'.toBuilder).1
  show b'.ep.map Sq.getFile = none
  rw [hn]; rfl

/-- (D3) the en-passant field is present whenever a legal en-passant capture exists: the decoded mark is
the successor position's mark `some m.dst`, and the fourth field of the text is the name of the square `e`
directly behind `m.dst` (the square the pawn passed over; rank 3 when Black is to move, rank 6 when White
is) -/
theorem C06_fen_ep_present_when_capturable (T : Tables) (hT : TablesOK T) (b : Board) (hc : Core T b)
    (m : Move) (hv : Valid b.abs = true) (hl : legal b.abs m = true) (b' : Board)
    (h : b.makeMoveNew T m = some b')
    (hcap : ∃ m', legal (apply b.abs m) m' = true ∧ isEnPassant (apply b.abs m) m' = true) :
    (∃ q : Pos, Fen.decode (showBoard b') = some q ∧ q.ep = (apply b.abs m).ep ∧ q.ep = some m.dst) ∧
      ∃ e : Sq, (Str.splitSpace (showBoard b'))[3]? = some (showSquare e) ∧
        e.getFile = m.dst.getFile ∧
        e.getRank = (match b'.stm with | .black => (2 : Fin 8) | .white => 5) ∧
        e.uforward b'.stm.other = m.dst := by
  obtain ⟨h1, h2, _⟩ := C02_model_ep_when_capturable T hT b hc m hv hl b' h hcap
  obtain ⟨hdec, _⟩ := C06_fen_decodes_after_move T hT b hc m hv hl b' h
  refine ⟨⟨b'.abs, hdec, h1, h2⟩, ?_⟩
  have hep : b'.ep = some m.dst := h2
  have hf : b'.toBuilder.epFile = some m.dst.getFile := by
    show b'.ep.map Sq.getFile = _
    rw [hep]; rfl
  obtain ⟨e, he1, he2, he3, he4⟩ := (C06_display_ep_standard b'.toBuilder).2 _ hf
  have hs := (makeMoveNew_abs_valid hT hc hv (Closure.legal_pseudo hl) h).2
  rw [Board.toBuilder_getEnPassant_of_epSane hs, hep] at he4
  injection he4 with he4
  exact ⟨e, he1, he2, he3, he4.symm⟩

/-! ### non-vacuity

After 1.e4 a6 2.e5 (Black to move, no ep mark) the move 2…d7–d5 is a double push landing beside the white
pawn on e5; the capture e5×d6 e.p. is then legal, and the mark is recorded.  2…h7–h5 is a double push with
no white pawn beside it: nothing is recorded.  2…Ng8–f6 is not a double push. -/

def c02EpBd : Builder where
  pieces s := match s.val with
    | 0 => some (.rook, .white) | 1 => some (.knight, .white) | 2 => some (.bishop, .white)
    | 3 => some (.queen, .white) | 4 => some (.king, .white) | 5 => some (.bishop, .white)
    | 6 => some (.knight, .white) | 7 => some (.rook, .white)
    | 8 => some (.pawn, .white) | 9 => some (.pawn, .white) | 10 => some (.pawn, .white)
    | 11 => some (.pawn, .white) | 36 => some (.pawn, .white) | 13 => some (.pawn, .white)
    | 14 => some (.pawn, .white) | 15 => some (.pawn, .white)
    | 56 => some (.rook, .black) | 57 => some (.knight, .black) | 58 => some (.bishop, .black)
    | 59 => some (.queen, .black) | 60 => some (.king, .black) | 61 => some (.bishop, .black)
    | 62 => some (.knight, .black) | 63 => some (.rook, .black)
    | 40 => some (.pawn, .black) | 49 => some (.pawn, .black) | 50 => some (.pawn, .black)
    | 51 => some (.pawn, .black) | 52 => some (.pawn, .black) | 53 => some (.pawn, .black)
    | 54 => some (.pawn, .black) | 55 => some (.pawn, .black)
    | _ => none
  stm := .black
  wcr := .both
  bcr := .both
  epFile := none

/-- the position as the Laws see it -/
def c02EpPos : Pos := ⟨c02EpBd.pieces, .black, fun _ => true, fun _ => true, none⟩

/-- d7–d5, h7–h5, Ng8–f6, and the reply e5×d6 -/
def c02EpD5 : Move := ⟨51, 35, none⟩
def c02EpH5 : Move := ⟨55, 39, none⟩
def c02EpNf6 : Move := ⟨62, 45, none⟩
def c02EpExd6 : Move := ⟨36, 43, none⟩

set_option maxRecDepth 100000 in
/-- specification level: (A) has a true hypothesis for d7–d5 (mark d5 recorded), (B) has a true hypothesis
in the successor (e5×d6 is legal and en passant); for h7–h5 the mark is set by `apply` and dropped by `norm`;
for Ng8–f6 there is none -/
theorem c02Ep_spec_facts :
    (Valid c02EpPos && legal c02EpPos c02EpD5 && isDoubleStep c02EpPos c02EpD5 &&
      ((norm (apply c02EpPos c02EpD5)).ep == some 35) &&
      legal (apply c02EpPos c02EpD5) c02EpExd6 && isEnPassant (apply c02EpPos c02EpD5) c02EpExd6 &&
      legal c02EpPos c02EpH5 && ((apply c02EpPos c02EpH5).ep == some 39) &&
      ((norm (apply c02EpPos c02EpH5)).ep == none) &&
      legal c02EpPos c02EpNf6 && !isDoubleStep c02EpPos c02EpNf6) = true := by decide +kernel

example : ∃ p m s, (norm (apply p m)).ep = some s ∧ pseudoLegal p m = true := by
  have h := c02Ep_spec_facts
  simp only [Bool.and_eq_true, beq_iff_eq] at h
  exact ⟨c02EpPos, c02EpD5, 35, h.1.1.1.1.1.1.1.2, Closure.legal_pseudo h.1.1.1.1.1.1.1.1.1.2⟩

example : ∃ q, (∃ m, legal q m = true ∧ isEnPassant q m = true) ∧ Valid c02EpPos = true := by
  have h := c02Ep_spec_facts
  simp only [Bool.and_eq_true, beq_iff_eq] at h
  exact ⟨apply c02EpPos c02EpD5, ⟨c02EpExd6, h.1.1.1.1.1.1.2, h.1.1.1.1.1.2⟩, h.1.1.1.1.1.1.1.1.1.1⟩

set_option maxRecDepth 100000 in
/-- model level, with the code's tables: `try_from` accepts the position, it is valid, the three moves are
legal; after d7–d5 `make_move_new` records d5, the reply e5×d6 is a legal en-passant capture in the
successor, and the printed text has the field `d6`; after h7–h5 and Ng8–f6 nothing is recorded and the field
is `-` -/
theorem c02Ep_model_facts :
    ((Board.tryFrom codeTables c02EpBd).map fun b =>
      Valid b.abs && legal b.abs c02EpD5 && legal b.abs c02EpH5 && legal b.abs c02EpNf6 &&
      isDoubleStep b.abs c02EpH5 && !isDoubleStep b.abs c02EpNf6 &&
      legal (apply b.abs c02EpD5) c02EpExd6 && isEnPassant (apply b.abs c02EpD5) c02EpExd6 &&
      (match b.makeMoveNew codeTables c02EpD5 with
       | some b' => b'.ep == some 35 &&
          showBoard b' == "rnbqkbnr/1pp1pppp/p7/3pP3/8/8/PPPP1PPP/RNBQKBNR w KQkq d6 0 1".toList
       | none => false) &&
      (match b.makeMoveNew codeTables c02EpH5 with
       | some b' => b'.ep == none &&
          showBoard b' == "rnbqkbnr/1pppppp1/p7/4P2p/8/8/PPPP1PPP/RNBQKBNR w KQkq - 0 1".toList
       | none => false) &&
      (match b.makeMoveNew codeTables c02EpNf6 with
       | some b' => b'.ep == none &&
          showBoard b' == "rnbqkb1r/1ppppppp/p4n2/4P3/8/8/PPPP1PPP/RNBQKBNR w KQkq - 0 1".toList
       | none => false)) = some true := by decide +kernel

/-- every hypothesis of the `C02_model_…` / `C06_fen_…` theorems holds for this board and d7–d5, including
"a legal en-passant capture exists in the successor"; the conclusion is about the non-trivial mark d5 -/
example : ∃ b m b', Core codeTables b ∧ Valid b.abs = true ∧ legal b.abs m = true ∧
    b.makeMoveNew codeTables m = some b' ∧
    (∃ m', legal (apply b.abs m) m' = true ∧ isEnPassant (apply b.abs m) m' = true) ∧
    b'.abs.ep = some 35 := by
  have hf := c02Ep_model_facts
  cases ht : Board.tryFrom codeTables c02EpBd with
  | none => rw [ht] at hf; cases hf
  | some b =>
    rw [ht] at hf
    simp only [Option.map_some, Option.some.injEq, Bool.and_eq_true] at hf
    obtain ⟨⟨⟨⟨⟨⟨⟨⟨⟨⟨hv, hl⟩, _⟩, _⟩, _⟩, _⟩, hl'⟩, he'⟩, hm⟩, _⟩, _⟩ := hf
    cases hmk : b.makeMoveNew codeTables c02EpD5 with
    | none => rw [hmk] at hm; cases hm
    | some b' =>
      rw [hmk] at hm
      simp only [Bool.and_eq_true, beq_iff_eq] at hm
      exact ⟨b, c02EpD5, b', (tryFrom_spec codeTables c02EpBd b ht).1, hv, hl, hmk, ⟨c02EpExd6, hl', he'⟩, hm.1⟩

/-- and of `C06_fen_ep_dash_unless_double_push`: Ng8–f6 is legal and not a double step -/
example : ∃ b m b', Core codeTables b ∧ Valid b.abs = true ∧ legal b.abs m = true ∧
    b.makeMoveNew codeTables m = some b' ∧ isDoubleStep b.abs m = false := by
  have hf := c02Ep_model_facts
  cases ht : Board.tryFrom codeTables c02EpBd with
  | none => rw [ht] at hf; cases hf
  | some b =>
    rw [ht] at hf
    simp only [Option.map_some, Option.some.injEq, Bool.and_eq_true, Bool.not_eq_true'] at hf
    obtain ⟨⟨⟨⟨⟨⟨⟨⟨⟨⟨hv, _⟩, _⟩, hl⟩, _⟩, hnd⟩, _⟩, _⟩, _⟩, _⟩, hm⟩ := hf
    cases hmk : b.makeMoveNew codeTables c02EpNf6 with
    | none => rw [hmk] at hm; cases hm
    | some b' => exact ⟨b, c02EpNf6, b', (tryFrom_spec codeTables c02EpBd b ht).1, hv, hl, hmk, hnd⟩

end Chess.Props
