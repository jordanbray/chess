import ChessVerif.Lemmas.GameClaim
import ChessVerif.Props.C10Full
import ChessVerif.Props.C11
/-!
# C11 at full strength — claiming a draw, against the specification

"A draw can be claimed exactly when the game has no result and either the current position has occurred at
least three times in the game or the last 100 half-moves contained no pawn move and no capture.  Claiming
succeeds in exactly those situations and ends the game as a declared draw; otherwise it is refused and changes
nothing."

`Props/C11.lean` describes what `can_declare_draw` computes in the model's own terms: a counter `reversible`
and a list `seen` of `(get_hash, legal move list)` entries kept since the last pawn move, capture or change
of castling rights.  Here these are tied to the Spec (`Spec/Game.lean`): `GameSt.clock`, and
`GameSt.occurrences` = the number of positions of the **whole** history with the `Pos.key` of the current one.

* B1 `C11_tests_agree`, `C11_clock_is_reversible`: on `Good` boards the model's "pawn on the source square or
  destination occupied" is the Spec's "pawn move or capture" (en passant is a pawn move for both), and
  "`wcr`/`bcr` changed" is "the four rights changed"; hence `reversible` = `clock`.
* B2 (pure Spec, `Lemmas/Irreversible.lean`) `C11_potential_step`, `C11_irreversible_no_recurrence`: the
  potential `Φ` = Σ weights of the men (pawn: 1 + distance to promotion, other men: 1) + number of castling
  rights never increases under a pseudo-legal move and strictly decreases under a pawn move, a capture or a
  change of castling rights; so a position from before such a half-move never recurs after it, and
  forgetting the entries before the cut loses no occurrence.
* B3 `C11_seen_count_eq_occurrences`: under `NoCollision` (two different positions of the game never have the
  same hash *and* the same legal move list) the count in `seen` is `occurrences`.
  The converse direction needs no hypothesis: equal positions are held by equal boards
  (`C03_board_determined_abs`), hence have equal entries.
* B4 `C11_can_declare_iff_spec`, `C11_declare_refines`, `C11_refines`.

`NoCollision` cannot be dropped: `get_hash` is a 64-bit xor of table entries, and nothing in the code excludes
two different positions of one game with equal hash and equal legal move list (then the model would count a
repetition the rules do not see).  Apart from that, no discrepancy between model and Spec was found.
-/
namespace Chess.Props
open Chess Chess.Game Chess.GameRefine Chess.GameExamples Chess.Irreversible

variable {T : Tables}

/-! ## B1: the tests of the scan -/

/-- the model's tests for "pawn move or capture" and "castling rights changed" are the Spec's -/
theorem C11_tests_agree {b : Board} (hg : b.Good T) (m : Move) (b' : Board) :
    isPawnOrCapture b m = Spec.GameSt.isCaptureOrPawn b.abs m ∧
    rightsChanged b b' = (rightsList b'.abs != rightsList b.abs) :=
  ⟨isPawnOrCapture_eq hg.struct m, rightsChanged_eq b b'⟩

/-- the extended relation holds initially and contains `Sim` -/
theorem C11_simH_init {b0 : Board} (h0 : b0.Good T) : SimH T ⟨b0, []⟩ (Spec.GameSt.init b0.abs) := simH_init h0

theorem C11_simH_sim {g : Game} {sg : Spec.GameSt} (h : SimH T g sg) : Sim T g sg := h.sim

/-- the counter of the scan is the Spec's half-move clock -/
theorem C11_clock_is_reversible {g : Game} {sg : Spec.GameSt} (h : SimH T g sg) :
    ∃ st, g.drawScan T = some st ∧ st.reversible = sg.clock := by
  obtain ⟨_, st, _, _, inv⟩ := h
  exact ⟨st, inv.scan, inv.clock⟩

/-! ## B2: irreversible half-moves (pure Spec) -/

/-- no pseudo-legal move increases the potential; a pawn move, a capture or a change of castling rights
strictly decreases it -/
theorem C11_potential_step {p : Pos} {m : Move} (h : pseudoLegal p m = true) :
    Φ (norm (apply p m)) ≤ Φ p ∧ (irreversible p m = true → Φ (norm (apply p m)) < Φ p) := Φ_step h

/-- `Pos.key` identifies the position -/
theorem C11_key_eq_iff {p q : Pos} : Spec.Pos.key p = Spec.Pos.key q ↔ p = q := key_eq_iff

/-- a position that occurred before an irreversible half-move does not occur after it -/
theorem C11_irreversible_no_recurrence {q p q' : Pos} {m : Move} {ms ms' : List Move}
    (h1 : playLegalNorm q ms = some p) (hl : legal p m = true) (hirr : irreversible p m = true)
    (h2 : playLegalNorm (norm (apply p m)) ms' = some q') : Spec.Pos.key q ≠ Spec.Pos.key q' :=
  irreversible_no_recurrence h1 hl hirr h2

/-! ## B3: the repetition count -/

/-- the hypothesis `NoCollision` follows from injectivity of the position hash on the history (which is decidable
on a concrete history) -/
theorem C11_noCollision_of_hash_inj {H : List Pos}
    (h : ∀ q₁ ∈ H, ∀ q₂ ∈ H, q₁.hashOf T = q₂.hashOf T → Spec.Pos.key q₁ = Spec.Pos.key q₂) : NoCollision T H :=
  fun _ _ _ _ m₁ m₂ hh _ => h _ m₁ _ m₂ hh

/-- the scan values are the Spec's: `reversible` = `clock`, and the current entry occurs in `seen` exactly as
often as the current position occurs in the whole history -/
theorem C11_seen_count_eq_occurrences {g : Game} {sg : Spec.GameSt} (h : SimH T g sg)
    (hnc : NoCollision T sg.history) :
    ∃ st, g.drawScan T = some st ∧ st.reversible = sg.clock ∧
      st.seen.count (entry T st.board) = sg.occurrences := scan_values h hnc

/-! ## B4: claiming -/

theorem C11_claimable_iff (sg : Spec.GameSt) :
    sg.claimable = true ↔ sg.result = none ∧ (3 ≤ sg.occurrences ∨ 100 ≤ sg.clock) := by
  simp [Spec.GameSt.claimable]

/-- **C11.** `can_declare_draw` says `true` exactly when the Spec allows a claim: no result, and the current
position has occurred at least three times in the game or the last 100 half-moves were neither pawn moves nor
captures. -/
theorem C11_can_declare_iff_spec (hT : TablesOK T) {g : Game} {sg : Spec.GameSt} (h : SimH T g sg)
    (hnc : NoCollision T sg.history) : g.canDeclareDraw T = some true ↔ sg.claimable = true :=
  canDeclareDraw_iff_claimable hT h hnc

/-- … and it never panics on such a game, so otherwise it says `false` -/
theorem C11_can_declare_eq_spec (hT : TablesOK T) {g : Game} {sg : Spec.GameSt} (h : SimH T g sg)
    (hnc : NoCollision T sg.history) : g.canDeclareDraw T = some sg.claimable := by
  have hiff := canDeclareDraw_iff_claimable hT h hnc
  obtain ⟨cur, hcur, _⟩ := h.sim
  cases hc : g.canDeclareDraw T with
  | none => rw [(canDeclareDraw_eq_none_iff T g).1 hc] at hcur; cases hcur
  | some x =>
    rw [hc] at hiff
    cases x <;> cases hcl : sg.claimable <;> simp [hcl] at hiff ⊢

/-- **C11, the claim.** `declare_draw` succeeds exactly when the Spec allows the claim; then `declareDraw` is
appended to the log and the result becomes `DrawDeclared` (for the model and for the Spec); otherwise model and
Spec refuse and nothing changes. -/
theorem C11_declare_refines (hT : TablesOK T) {g g' : Game} {sg : Spec.GameSt} (h : SimH T g sg)
    (hnc : NoCollision T sg.history) {acc : Bool} (hp : g.declareDraw T = some (g', acc)) :
    (acc = true ↔ sg.claimable = true) ∧
    (acc = true → g'.moves = sg.log ++ [.declareDraw] ∧ g'.result T = some (some .drawDeclared) ∧
      (sg.step .declareDraw).1.result = some .drawDeclared ∧ (sg.step .declareDraw).2 = true) ∧
    (acc = false → g' = g ∧ sg.step .declareDraw = (sg, false)) ∧
    SimH T g' (sg.step .declareDraw).1 := by
  obtain ⟨hacc, hs'⟩ := simH_perform hT h hnc (a := .declareDraw) hp
  obtain ⟨h1, h2, h3⟩ := declareDraw_spec hp
  have hiff := h1.trans (canDeclareDraw_iff_claimable hT h hnc)
  refine ⟨hiff, fun ht => ?_, fun hf => ⟨h3 hf, ?_⟩, hs'⟩
  · subst ht
    have hres := C11_declare_result hp
    refine ⟨by rw [h2 rfl, sim_log h.sim], hres, ?_, hacc.symm⟩
    exact (Option.some.inj (hres.symm.trans (sim_result hT hs'.sim))).symm
  · subst hf
    rw [step_eq, show specAdmits sg .declareDraw = false from Bool.eq_false_iff.2 (mt hiff.2 Bool.false_ne_true),
      Bool.and_false]
    rfl

/-- one request of any kind -/
theorem C11_sim_step (hT : TablesOK T) {g g' : Game} {sg : Spec.GameSt} (h : SimH T g sg)
    (hnc : NoCollision T sg.history) {a : Action} {acc : Bool} (hp : g.perform T a = some (g', acc)) :
    acc = (sg.step a).2 ∧ SimH T g' (sg.step a).1 := simH_perform hT h hnc hp

/-- **C10 + C11, refinement with draw claims.** From a `Good` start board, for every list of requests: if no two
different positions of the Spec's history share hash and legal move list, the model run does not panic,
accepts exactly the requests the Spec accepts, and ends related to the Spec's final state (same result, side
to move, position, log; `reversible` = `clock`; repetition count = `occurrences`). -/
theorem C11_refines (hT : TablesOK T) {b0 : Board} (h0 : b0.Good T) (acts : List Action)
    (hnc : NoCollision T (specRun (Spec.GameSt.init b0.abs) acts).1.history) :
    ∃ gf, run T ⟨b0, []⟩ acts = some (gf, (specRun (Spec.GameSt.init b0.abs) acts).2) ∧
      SimH T gf (specRun (Spec.GameSt.init b0.abs) acts).1 :=
  simH_run hT (simH_init h0) acts hnc

theorem C11_refines_from (hT : TablesOK T) {g : Game} {sg : Spec.GameSt} (h : SimH T g sg) (acts : List Action)
    (hnc : NoCollision T (specRun sg acts).1.history) :
    ∃ gf, run T g acts = some (gf, (specRun sg acts).2) ∧ SimH T gf (specRun sg acts).1 :=
  simH_run hT h acts hnc

/-! ## non-vacuity (real tables): the threefold knight shuffle through both runs -/

/-- a claim in the initial position (refused), 1. Nf3 Nf6 2. Ng1 Ng8 3. Nf3 Nf6 4. Ng1 Ng8, a claim (accepted:
the initial position stands for the third time), a further move (refused) -/
def shuffleReqs : List Action := .declareDraw :: shuffle.moves ++ [.declareDraw, mv 12 28]

/-- the Spec run evaluated once: what it accepts, its result, the scan values, and that the position hash of the
code's tables separates the positions of its history -/
private theorem shuffle_eval : ∀ r, r = specRun (Spec.GameSt.init startBoard.abs) shuffleReqs →
    (r.2 = shuffle.moves ++ [.declareDraw] ∧ r.1.result = some .drawDeclared ∧ r.1.occurrences = 3 ∧
      r.1.clock = 8 ∧ r.1.history.length = 9) ∧
    ∀ q₁ ∈ r.1.history, ∀ q₂ ∈ r.1.history,
      q₁.hashOf codeTables = q₂.hashOf codeTables → Spec.Pos.key q₁ = Spec.Pos.key q₂ := by
  intro r hr
  subst hr
  decide +kernel

theorem shuffle_spec :
    (specRun (Spec.GameSt.init startBoard.abs) shuffleReqs).2 = shuffle.moves ++ [.declareDraw] ∧
    (specRun (Spec.GameSt.init startBoard.abs) shuffleReqs).1.result = some .drawDeclared ∧
    (specRun (Spec.GameSt.init startBoard.abs) shuffleReqs).1.occurrences = 3 ∧
    (specRun (Spec.GameSt.init startBoard.abs) shuffleReqs).1.clock = 8 ∧
    (specRun (Spec.GameSt.init startBoard.abs) shuffleReqs).1.history.length = 9 := (shuffle_eval _ rfl).1

/-- on this history the position hash of the code's tables separates the positions -/
theorem shuffle_noCollision :
    NoCollision codeTables (specRun (Spec.GameSt.init startBoard.abs) shuffleReqs).1.history :=
  C11_noCollision_of_hash_inj (shuffle_eval _ rfl).2

/-- the hypotheses of `C11_refines` are satisfiable, and its conclusion on this game: the model accepts the
eight moves and the second claim, and reports `DrawDeclared` -/
example : ∃ b0 : Board, b0.Good codeTables ∧ b0.abs = startBoard.abs ∧
    ∃ gf, run codeTables ⟨b0, []⟩ shuffleReqs = some (gf, shuffle.moves ++ [.declareDraw]) ∧
      gf.result codeTables = some (some .drawDeclared) ∧
      SimH codeTables gf (specRun (Spec.GameSt.init startBoard.abs) shuffleReqs).1 := by
  obtain ⟨b0, _, habs, hg⟩ := C01_good_of_valid_pos codeTables_ok startPos_valid
  have habs' : b0.abs = startBoard.abs := habs
  have hnc := shuffle_noCollision
  rw [← habs'] at hnc
  obtain ⟨gf, hrun, hsim⟩ := C11_refines codeTables_ok hg shuffleReqs hnc
  rw [habs'] at hrun hsim
  refine ⟨b0, hg, habs', gf, ?_, ?_, hsim⟩
  · rw [hrun, shuffle_spec.1]
  · rw [sim_result codeTables_ok hsim.sim, shuffle_spec.2.1]

/-- the same evaluated directly on the model (independent of the theorems) -/
example : ((Board.tryFrom codeTables startBoard.abs.toBuilder).bind fun b0 =>
      (run codeTables ⟨b0, []⟩ shuffleReqs).map fun r => (r.2, r.1.result codeTables)) =
    some (shuffle.moves ++ [.declareDraw], some (some .drawDeclared)) := by decide +kernel

/-- B2 is not vacuous: 1. e4 is irreversible and lowers the potential of the initial position from 132 to 130;
1. Nf3 is reversible -/
example : pseudoLegal startBoard.abs ⟨12, 28, none⟩ = true ∧ irreversible startBoard.abs ⟨12, 28, none⟩ = true ∧
    Φ startBoard.abs = 132 ∧ Φ (norm (apply startBoard.abs ⟨12, 28, none⟩)) = 130 ∧
    irreversible startBoard.abs ⟨6, 21, none⟩ = false := by decide +kernel

end Chess.Props
