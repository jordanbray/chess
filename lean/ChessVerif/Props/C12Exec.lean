import ChessVerif.Lemmas.SanExec
import ChessVerif.Props.C12
/-!
# C12 (oracle) — the executable SAN oracle is the SAN specification

The correspondence driver judges the library's `ChessMove::from_san` with an executable oracle
(`SanSpec.isSpellingB`, `SanSpec.sanDenotes` of `Spec/SanExec.lean`, which `Driver/Ops2.lean` calls).  The specification of algebraic notation is the proposition
`SanSpec.IsSpelling p m s` (`Spec/San.lean`).  Here, for ALL positions, moves and texts:

* `C12_isSpellingB_iff`: on a legal move the oracle answers `true` exactly when the text is an admissible spelling;
* `C12_sanDenotes_iff`: the list the oracle returns holds exactly the moves the text is an admissible spelling of;
* `C12_isSpelling_unique`, `C12_sanDenotes_at_most_one`, `C12_sanDenotes_length_le_one`: a text is an admissible
  spelling of at most one legal move; the oracle's list is empty or a single move (so the driver's `match … with | [m]`
  loses nothing);
* `C12_sanDenotes_eq_singleton_iff`: the oracle returns `[m]` exactly when `s` is an admissible spelling of `m`.
-/
namespace Chess.Props
open Chess SanSpec

/-- **The executable oracle is exactly the specification.**  For every position `p`, every legal move `m` and every
text `s`: the oracle, run on the list of legal moves of `p`, accepts `s` for `m` iff `s` is an admissible spelling of
`m` in `p`. -/
theorem C12_isSpellingB_iff (p : Pos) (m : Move) (s : List Char) (hl : legal p m = true) :
    SanSpec.isSpellingB p (legalMoves p) m s = true ↔ SanSpec.IsSpelling p m s := by
  unfold IsSpelling
  cases hc : isCastle p m with
  | true =>
    rw [isSpellingB_castle hc]
    exact ⟨fun h => ⟨hl, .inl ⟨rfl, h⟩⟩, fun h => h.2.elim (·.2) (fun h => nomatch h.1)⟩
  | false =>
    rw [isSpellingB_nonCastle hc]
    exact ⟨fun h => ⟨hl, .inr ⟨rfl, h⟩⟩, fun h => h.2.elim (fun h => nomatch h.1) (·.2)⟩

/-- the same without the legality hypothesis: the oracle decides the part of `IsSpelling` after `legal p m = true` -/
theorem C12_isSpellingB_iff_legal_and (p : Pos) (m : Move) (s : List Char) :
    (legal p m = true ∧ SanSpec.isSpellingB p (legalMoves p) m s = true) ↔ SanSpec.IsSpelling p m s :=
  ⟨fun h => (C12_isSpellingB_iff p m s h.1).mp h.2, fun h => ⟨h.1, (C12_isSpellingB_iff p m s h.1).mpr h⟩⟩

/-- **The moves the oracle returns** for a text `s` in a position `p` are exactly the (legal) moves of which `s` is an
admissible spelling. -/
theorem C12_sanDenotes_iff (p : Pos) (m : Move) (s : List Char) :
    m ∈ SanSpec.sanDenotes p s ↔ SanSpec.IsSpelling p m s := by
  unfold sanDenotes
  rw [List.mem_filter, Plausible.mem_legalMoves_iff]
  exact C12_isSpellingB_iff_legal_and p m s

/-- **Uniqueness.**  A text is an admissible spelling of at most one legal move of a position (castling or not, any
disambiguation kinds, suffixes and ` e.p.` marks on either side). -/
theorem C12_isSpelling_unique (p : Pos) (m₁ m₂ : Move) (s : List Char)
    (h₁ : SanSpec.IsSpelling p m₁ s) (h₂ : SanSpec.IsSpelling p m₂ s) : m₁ = m₂ :=
  SanSpec.isSpelling_unique h₁ h₂

/-- any two members of the oracle's answer are equal -/
theorem C12_sanDenotes_at_most_one (p : Pos) (s : List Char) (m₁ m₂ : Move)
    (h₁ : m₁ ∈ SanSpec.sanDenotes p s) (h₂ : m₂ ∈ SanSpec.sanDenotes p s) : m₁ = m₂ :=
  SanSpec.isSpelling_unique ((C12_sanDenotes_iff p m₁ s).mp h₁) ((C12_sanDenotes_iff p m₂ s).mp h₂)

/-- the oracle's answer is the empty list or a single move (the list of legal moves has no repetition) -/
theorem C12_sanDenotes_length_le_one (p : Pos) (s : List Char) : (SanSpec.sanDenotes p s).length ≤ 1 := by
  have hn : (sanDenotes p s).Nodup := (legalMoves_nodup p).sublist List.filter_sublist
  match hl : sanDenotes p s with
  | [] | [_] => simp
  | a :: b :: r =>
    rw [hl] at hn
    cases C12_sanDenotes_at_most_one p s a b (hl ▸ List.mem_cons_self)
      (hl ▸ List.mem_cons_of_mem _ List.mem_cons_self)
    simp at hn

/-- the oracle answers `[m]` exactly when `s` is an admissible spelling of `m` -/
theorem C12_sanDenotes_eq_singleton_iff (p : Pos) (m : Move) (s : List Char) :
    SanSpec.sanDenotes p s = [m] ↔ SanSpec.IsSpelling p m s := by
  rw [← C12_sanDenotes_iff]
  constructor
  · intro h; rw [h]; exact List.mem_singleton.mpr rfl
  · intro h
    have hlen := C12_sanDenotes_length_le_one p s
    match hl : SanSpec.sanDenotes p s with
    | [] => rw [hl] at h; cases h
    | [a] => rw [hl] at h; rw [List.mem_singleton.mp h]
    | a :: b :: r => rw [hl] at hlen; simp at hlen

/-- the oracle answers `[]` exactly when `s` is an admissible spelling of no move -/
theorem C12_sanDenotes_eq_nil_iff (p : Pos) (s : List Char) :
    SanSpec.sanDenotes p s = [] ↔ ∀ m, ¬ SanSpec.IsSpelling p m s := by
  rw [List.eq_nil_iff_forall_not_mem]
  exact forall_congr' fun m => not_congr (C12_sanDenotes_iff p m s)

/-! ### the hypotheses are satisfiable: concrete positions -/

/-- `C12_isSpellingB_iff`, a promotion with check mark: White Ke1, Rh1, pawn e7; Black Ka8 -/
example : SanSpec.isSpellingB promoBoard.abs (legalMoves promoBoard.abs) ⟨52, 60, some .queen⟩ "e8Q+".toList = true :=
  (C12_isSpellingB_iff _ _ _ e8Q_isSpelling.1).mpr e8Q_isSpelling

/-- `C12_isSpellingB_iff`, castling -/
example : SanSpec.isSpellingB promoBoard.abs (legalMoves promoBoard.abs) ⟨4, 6, none⟩ "O-O#".toList = true :=
  (C12_isSpellingB_iff _ _ _ OO_isSpelling.1).mpr OO_isSpelling

/-- `C12_sanDenotes_iff`, `C12_sanDenotes_eq_singleton_iff` -/
example : (⟨52, 60, some .queen⟩ : Move) ∈ SanSpec.sanDenotes promoBoard.abs "e8Q+".toList :=
  (C12_sanDenotes_iff _ _ _).mpr e8Q_isSpelling
example : SanSpec.sanDenotes promoBoard.abs "e8Q+".toList = [⟨52, 60, some .queen⟩] :=
  (C12_sanDenotes_eq_singleton_iff _ _ _).mpr e8Q_isSpelling
example : SanSpec.sanDenotes promoBoard.abs "O-O#".toList = [⟨4, 6, none⟩] :=
  (C12_sanDenotes_eq_singleton_iff _ _ _).mpr OO_isSpelling

/-- `C12_isSpelling_unique` / `C12_sanDenotes_at_most_one`: nothing but e7-e8=Q is spelled `e8Q+` there -/
example (m : Move) (h : m ∈ SanSpec.sanDenotes promoBoard.abs "e8Q+".toList) : m = ⟨52, 60, some .queen⟩ :=
  C12_sanDenotes_at_most_one _ _ _ _ h ((C12_sanDenotes_iff _ _ _).mpr e8Q_isSpelling)

/-- the oracle on the position with knights on b1 and f3 that both reach d2: `Nd2` is an admissible spelling of no
move (ambiguous), `Nbd2` and `Nb1d2` of Nb1-d2 only, `Nfd2` of Nf3-d2 only.  Read off the specification through
`C12_sanDenotes_eq_singleton_iff` / `C12_sanDenotes_eq_nil_iff`: the kernel evaluates the legality of the two knight
moves and the men on the 64 squares, not the list of all legal moves -/
theorem C12Exec_twoKnights_check : SanSpec.sanDenotes twoKnights.abs "Nd2".toList = [] ∧
    SanSpec.sanDenotes twoKnights.abs "Nbd2".toList = [⟨1, 11, none⟩] ∧
    SanSpec.sanDenotes twoKnights.abs "Nb1d2".toList = [⟨1, 11, none⟩] ∧
    SanSpec.sanDenotes twoKnights.abs "Nfd2".toList = [⟨21, 11, none⟩] := by
  -- a knight move spelled with disambiguation `d`, when no other white knight agrees with its source on what `d`
  -- spells out
  have spelling : ∀ (m : Move) (d : Disamb), legal twoKnights.abs m = true →
      twoKnights.abs.board m.src = some (.knight, .white) →
      (∀ s, twoKnights.abs.colorAt s = some .white →
        agrees twoKnights.abs d m ⟨s, m.dst, m.promo⟩ = true → s = m.src) →
      sanDenotes twoKnights.abs (spell twoKnights.abs m d .none false) = [m] := by
    intro m d hl hk hu
    refine (C12_sanDenotes_eq_singleton_iff _ _ _).2 ⟨hl, .inr ⟨?_, d, .none, false,
      San.unambiguous_of_sources hu, nofun, fun h => ?_, rfl⟩⟩
    · simp [isCastle, hk]
    · rw [hk] at h; cases h.1
  have l1 : legal twoKnights.abs ⟨1, 11, none⟩ = true := by decide +kernel
  have l2 : legal twoKnights.abs ⟨21, 11, none⟩ = true := by decide +kernel
  refine ⟨?_, ?_, ?_, ?_⟩
  · -- `Nd2` reads as a knight move to d2 without disambiguation, and both knights go there
    refine (C12_sanDenotes_eq_nil_iff _ _).2 fun m ⟨hl, hcase⟩ => ?_
    rcases hcase with ⟨_, sfx, h⟩ | ⟨_, d, sfx, ep, hun, _, _, hs⟩
    · cases sfx <;> split at h <;> exact absurd h (by decide)
    · obtain ⟨pc, hb⟩ := San.board_of_legal hl
      have q := San.scan_spell _ m d sfx ep pc _ hb (San.promo_of_legal hl)
      rw [← hs, show San.scan "Nd2".toList = some ⟨.knight, none, none, false, 11, none, false⟩ by
        decide +kernel, Option.some.injEq, San.Fields.mk.injEq] at q
      obtain ⟨rfl, hf, hr, _, hd, hp, _⟩ := q
      cases d
      case file | both => cases hf
      case rank => cases hr
      unfold unambiguous at hun
      have hag : ∀ s, twoKnights.abs.board s = some (.knight, .white) →
          agrees twoKnights.abs .none m ⟨s, 11, none⟩ = true := fun s hs => by
        simp [agrees, hb, hs, ← hd, ← hp]
      have e1 := List.all_eq_true.1 hun _ ((Plausible.mem_legalMoves_iff _ _).2 l1)
      have e2 := List.all_eq_true.1 hun _ ((Plausible.mem_legalMoves_iff _ _).2 l2)
      rw [hag 1 (by decide +kernel)] at e1
      rw [hag 21 (by decide +kernel)] at e2
      simp only [Bool.not_true, Bool.false_or, beq_iff_eq] at e1 e2
      exact absurd (e1.trans e2.symm) (by decide)
  · exact (by decide +kernel : spell twoKnights.abs ⟨1, 11, none⟩ .file .none false = "Nbd2".toList) ▸
      spelling ⟨1, 11, none⟩ .file l1 (by decide +kernel) (by decide +kernel)
  · exact (by decide +kernel : spell twoKnights.abs ⟨1, 11, none⟩ .both .none false = "Nb1d2".toList) ▸
      spelling ⟨1, 11, none⟩ .both l1 (by decide +kernel) (by decide +kernel)
  · exact (by decide +kernel : spell twoKnights.abs ⟨21, 11, none⟩ .file .none false = "Nfd2".toList) ▸
      spelling ⟨21, 11, none⟩ .file l2 (by decide +kernel) (by decide +kernel)

/-- hence, by `C12_sanDenotes_eq_nil_iff`, no move of that position has the admissible spelling `Nd2` -/
example (m : Move) : ¬ SanSpec.IsSpelling twoKnights.abs m "Nd2".toList :=
  (C12_sanDenotes_eq_nil_iff _ _).mp C12Exec_twoKnights_check.1 m

end Chess.Props
