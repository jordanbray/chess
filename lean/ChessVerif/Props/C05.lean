import ChessVerif.Lemmas.Closure
/-!
# C05 — validity is closed under legal moves; rights, men and pawns never grow

Everything here is proved on the FIDE specification (`ChessVerif/Spec/Rules.lean`) for ALL positions and
ALL moves, from the single hypothesis `Valid p = true`.

* `C05_valid_step`: a legal move from a valid position gives a valid position (one king per side, ≤ 16
  men and ≤ 8 pawns per side, castling rights backed by king and rook at home, no pawn on rank 1/8, the
  side that just moved is not in check, the en-passant mark is directly after a double push).
* `C05_rights_shrink_*`, `C05_men_shrink`, `C05_pawns_shrink`: the monotone quantities, for every
  pseudo-legal move of every position (no validity needed).
* `C05_reachable_valid`, `C05_reachable_monotone`: the same along every history of legal moves
  (`playLegal`), and `C05_reachable_clauses` spells the consequences out.
* `C05_valid_norm`, `C05_legal_norm`, `C05_library_history_valid`, `C05_library_history_monotone`: the
  library records the en-passant mark only when an enemy pawn stands beside the pushed pawn (`norm`);
  dropping the mark keeps validity and does not change which moves are legal (no `Valid` needed), so the
  statements hold for the positions the library actually holds (`playLegalNorm`).
-/
namespace Chess.Props
open Chess.Closure

theorem C05_valid_step (p : Pos) (m : Move) (hv : Valid p = true) (hl : legal p m = true) :
    Valid (apply p m) = true :=
  (valid_iff _).mpr (validP_step ((valid_iff p).mp hv) hl)

theorem C05_rights_shrink_K (p : Pos) (m : Move) (c : Color) :
    (apply p m).castleK c = true → p.castleK c = true := rights_shrinkK

theorem C05_rights_shrink_Q (p : Pos) (m : Move) (c : Color) :
    (apply p m).castleQ c = true → p.castleQ c = true := rights_shrinkQ

theorem C05_rights_shrink (p : Pos) (m : Move) (c : Color) :
    ((apply p m).castleK c = true → p.castleK c = true) ∧ ((apply p m).castleQ c = true → p.castleQ c = true) :=
  ⟨rights_shrinkK, rights_shrinkQ⟩

theorem C05_men_shrink (p : Pos) (m : Move) (c : Color) (h : pseudoLegal p m = true) :
    count (apply p m) (·.2 == c) ≤ count p (·.2 == c) := men_shrink h c

theorem C05_pawns_shrink (p : Pos) (m : Move) (c : Color) (h : pseudoLegal p m = true) :
    count (apply p m) (· == (.pawn, c)) ≤ count p (· == (.pawn, c)) := pawns_shrink h c

/-- no king is ever captured: the number of kings of each colour is unchanged by a legal move -/
theorem C05_kings_preserved (p : Pos) (m : Move) (c : Color) (hv : Valid p = true) (h : pseudoLegal p m = true) :
    count (apply p m) (· == (.king, c)) = count p (· == (.king, c)) :=
  kings_eq h (no_king_capture ((valid_iff p).mp hv) h) c

/-- `inCheck` depends only on the placement of the men -/
theorem C05_inCheck_congr (p q : Pos) (c : Color) (h : p.board = q.board) : inCheck p c = inCheck q c :=
  inCheck_congr h c

theorem C05_reachable_valid (p q : Pos) (ms : List Move) (hv : Valid p = true) (h : playLegal p ms = some q) :
    Valid q = true :=
  (valid_iff _).mpr (playLegal_validP ((valid_iff p).mp hv) h)

theorem C05_Reachable_valid (p q : Pos) (hv : Valid p = true) (h : Reachable p q) : Valid q = true := by
  obtain ⟨ms, h⟩ := h
  exact C05_reachable_valid p q ms hv h

/-- the clauses of the property, spelled out, at every position of every legal history from a valid start -/
theorem C05_reachable_clauses (p q : Pos) (ms : List Move) (hv : Valid p = true) (h : playLegal p ms = some q) :
    (∀ c, count q (· == (.king, c)) = 1) ∧
    inCheck q q.stm.other = false ∧
    (∀ s c, q.board s = some (.pawn, c) → s.rank ≠ 0 ∧ s.rank ≠ 7) ∧
    (∀ c, count q (·.2 == c) ≤ 16) ∧ (∀ c, count q (· == (.pawn, c)) ≤ 8) := by
  have hq := playLegal_validP ((valid_iff p).mp hv) h
  exact ⟨hq.king, hq.notInCheck, fun s c hs => hq.noPawn s (by simp [hs]), hq.men, hq.pawns⟩

/-- along any legal history (no validity needed): castling rights never come back, the number of men of a
side never grows, a side's pawn count never grows.  Because every segment of a legal history is a legal
history (`C05_history_segment`), this compares any two points of a history. -/
theorem C05_reachable_monotone (p q : Pos) (ms : List Move) (h : playLegal p ms = some q) :
    (∀ c, q.castleK c = true → p.castleK c = true) ∧
    (∀ c, q.castleQ c = true → p.castleQ c = true) ∧
    (∀ c, count q (·.2 == c) ≤ count p (·.2 == c)) ∧
    (∀ c, count q (· == (.pawn, c)) ≤ count p (· == (.pawn, c))) :=
  have hm := playLegal_mono h
  ⟨hm.castleK, hm.castleQ, hm.men, hm.pawns⟩

theorem C05_history_segment (p : Pos) (a b : List Move) :
    playLegal p (a ++ b) = (playLegal p a).bind (fun q => playLegal q b) := playLegal_append p a b

theorem C05_valid_norm (p : Pos) (hv : Valid p = true) : Valid (norm p) = true :=
  (valid_iff _).mpr (validP_norm ((valid_iff p).mp hv))

/-- holds for every position, valid or not: the mark matters only for en-passant captures, which need a
pawn of the side to move beside the marked pawn, which is exactly when `norm` keeps the mark -/
theorem C05_legal_norm (p : Pos) (m : Move) : legal (norm p) m = legal p m := legal_norm p m

theorem C05_apply_norm (p : Pos) (m : Move) : apply (norm p) m = apply p m := rfl

theorem C05_library_history_valid (p q : Pos) (ms : List Move) (hv : Valid p = true)
    (h : playLegalNorm p ms = some q) : Valid q = true :=
  (valid_iff _).mpr (playLegalNorm_validP ((valid_iff p).mp hv) h)

theorem C05_library_history_monotone (p q : Pos) (ms : List Move) (h : playLegalNorm p ms = some q) :
    (∀ c, q.castleK c = true → p.castleK c = true) ∧
    (∀ c, q.castleQ c = true → p.castleQ c = true) ∧
    (∀ c, count q (·.2 == c) ≤ count p (·.2 == c)) ∧
    (∀ c, count q (· == (.pawn, c)) ≤ count p (· == (.pawn, c))) :=
  have hm := playLegalNorm_mono h
  ⟨hm.castleK, hm.castleQ, hm.men, hm.pawns⟩

/-- the library's history and the specification's history play the same move lists and end in the same
position up to `norm` -/
theorem C05_library_history_eq (p : Pos) (ms : List Move) :
    (playLegalNorm p ms).map norm = (playLegal p ms).map norm := (playLegalNorm_eq p ms).2

/-! ### the hypotheses are satisfiable -/

namespace C05Example
def backRank : Nat → Piece
  | 0 | 7 => .rook | 1 | 6 => .knight | 2 | 5 => .bishop | 3 => .queen | _ => .king
def startBoard : Sq → Option (Piece × Color) := fun s =>
  match s.val / 8 with
  | 0 => some (backRank (s.val % 8), .white)
  | 1 => some (.pawn, .white)
  | 6 => some (.pawn, .black)
  | 7 => some (backRank (s.val % 8), .black)
  | _ => none
def startPos : Pos := ⟨startBoard, .white, fun _ => true, fun _ => true, none⟩
/-- 1. e4 d5 2. exd5 Qxd5 3. Ke2 -/
def line : List Move := [⟨12, 28, none⟩, ⟨51, 35, none⟩, ⟨28, 35, none⟩, ⟨59, 35, none⟩, ⟨4, 12, none⟩]
end C05Example

set_option maxRecDepth 100000 in
example : Valid C05Example.startPos = true := by decide +kernel
set_option maxRecDepth 100000 in
example : legal C05Example.startPos ⟨12, 28, none⟩ = true := by decide +kernel
set_option maxRecDepth 100000 in
example : pseudoLegal C05Example.startPos ⟨6, 21, none⟩ = true := by decide +kernel
set_option maxRecDepth 100000 in
example : (playLegal C05Example.startPos C05Example.line).isSome = true := by decide +kernel
set_option maxRecDepth 100000 in
example : (playLegalNorm C05Example.startPos C05Example.line).isSome = true := by decide +kernel
/-- after 1. e4 the mark is set but no black pawn stands beside e4: `norm` really drops something -/
example : (apply C05Example.startPos ⟨12, 28, none⟩).ep = some 28 ∧
    (norm (apply C05Example.startPos ⟨12, 28, none⟩)).ep = none := by decide +kernel

end Chess.Props
