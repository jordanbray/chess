import ChessVerif.Lemmas.Entries
import ChessVerif.Lemmas.Sane
import ChessVerif.CodeTables
/-!
# C01 (structural half) — what `enumerate_moves` generates, in terms of bits only

No chess geometry here.  The statements describe the entry list `MoveGen.enumerate T b` and the
generated move list `Board.legalMoves T b` for **every** table set `T` and **every** `Board` value `b`
through the per-source destination sets exactly as the code computes them (`Lemmas/Entries.lean`):

* `Entries.own b p` — the men of kind `p` of the side to move, `b.pieces p &&& b.colorCombined b.stm`;
* `Entries.dests T b inCheck p src` — `destsPawn` / `destsKnight` / `destsGeneric` (bishop, rook, queen) /
  `destsKing`; `Entries.promoFlag b p src` — `src.getRank = seventhRank` for pawns, `false` otherwise;
* `Entries.epSources T b epSq`, `Entries.epDest b epSq = epSq.uforward b.stm` — the en-passant entries;
* `Entries.IsEntry T b inCheck e`, `Entries.IsMove T b inCheck m` — "an own non-king man's entry / move,
  or an en-passant entry / move, or the king entry / a king move".

The proof that generated moves = FIDE-legal moves only has to relate these destination sets to geometry.
-/
namespace Chess.Props
open Chess.Entries Chess.MoveGen

/-- a move is generated iff some entry has its source, its destination bit, and the promotion shape -/
theorem C01S_mem_legalMoves_iff (T : Tables) (b : Board) (m : Move) :
    m ∈ b.legalMoves T ↔ ∃ e ∈ enumerate T b, e.sq = m.src ∧ e.bb.getLsbD m.dst.val = true ∧
      (if e.promo then ∃ q ∈ promotionPieces, m.promo = some q else m.promo = none) :=
  mem_legalMoves_iff T b m

/-- the entry list is, in this order: pawn entries, en-passant entries, knight, bishop, rook, queen
entries (per kind: unpinned men in square order, then pinned men), then the king entry; with two or
more checkers only the king entry -/
theorem C01S_enumerate_eq (T : Tables) (b : Board) :
    enumerate T b =
      if b.checkers = 0#64 then secAll T b false
      else if b.checkers.popcnt = 1 then secAll T b true
      else secKing T b true := enumerate_eq T b

/-- membership in the entry list in the three check regimes -/
theorem C01S_mem_enumerate_iff (T : Tables) (b : Board) (e : Entry) :
    e ∈ enumerate T b ↔
      if b.checkers = 0#64 then IsEntry T b false e
      else if b.checkers.popcnt = 1 then IsEntry T b true e
      else destsKing T b true ≠ 0#64 ∧ e = ⟨b.kingSquare b.stm, destsKing T b true, false⟩ :=
  mem_enumerate_iff T b e

/-- membership in the generated move list, by the kind of man on the source square -/
theorem C01S_mem_legalMoves_cases (T : Tables) (b : Board) (m : Move) :
    m ∈ b.legalMoves T ↔
      if b.checkers = 0#64 then IsMove T b false m
      else if b.checkers.popcnt = 1 then IsMove T b true m
      else m.src = b.kingSquare b.stm ∧ (destsKing T b true).getLsbD m.dst.val = true ∧ m.promo = none :=
  mem_legalMoves_cases T b m

/-- with disjoint piece boards the kind `p` in `IsMove` / `IsEntry` is determined by the source square -/
theorem C01S_kind_unique {b : Board} (hs : Struct b) {p q : Piece} {s : Sq}
    (hp : (own b p).getLsbD s.val = true) (hq : (own b q).getLsbD s.val = true) : p = q :=
  kind_unique hs hp hq

/-- the first loop of `KingType::legals`, bit by bit -/
theorem C01S_kingSteps_getLsbD (T : Tables) (b : Board) (s : Sq) :
    (kingSteps T b).getLsbD s.val =
      ((T.king (b.kingSquare b.stm) &&& ownMask b).getLsbD s.val && legalKingMove T b s) :=
  kingSteps_getLsbD T b s

/-- no move is generated twice: piece boards disjoint, the side to move has a king bit, and the
en-passant destination is not an ordinary destination of the capturing pawn -/
theorem C01S_legalMoves_nodup (T : Tables) (b : Board) (hs : Struct b) (hk : own b .king ≠ 0#64)
    (hep : NoEpClash T b (decide (b.checkers ≠ 0#64))) : (b.legalMoves T).Nodup :=
  legalMoves_nodup T b hs hk hep

/-- the entries are pairwise apart (different sources, or no common destination) -/
theorem C01S_enumerate_apart (T : Tables) (b : Board) (hs : Struct b) (hk : own b .king ≠ 0#64)
    (hep : NoEpClash T b (decide (b.checkers ≠ 0#64))) : (enumerate T b).Pairwise Apart :=
  enumerate_apart T b hs hk hep

/-- a regime-independent sufficient form of the en-passant hypothesis -/
theorem C01S_noEpClash_of_pseudo (T : Tables) (b : Board)
    (h : ∀ epSq src : Sq, b.ep = some epSq → (epSources T b epSq).getLsbD src.val = true →
      (pseudoLegals T .pawn src b.stm b.combined (ownMask b)).getLsbD (epDest b epSq).val = false)
    (ic : Bool) : NoEpClash T b ic := noEpClash_of_pseudo T b h ic

/-- `Board::legal(m)` is membership in the generated list -/
theorem C01S_legal_query_iff (T : Tables) (b : Board) (m : Move) :
    b.legal T m = true ↔ m ∈ b.legalMoves T := legal_query_iff T b m

/-- `Board::legal` and the generator agree on every one of the 64 × 64 × 7 move values -/
theorem C01S_enumerate_moves_eq (T : Tables) (b : Board) :
    (∀ m : Move, m ∈ allMoveValues) ∧ allMoveValues.length = 64 * 64 * 7 ∧ allMoveValues.Nodup ∧
    (∀ m, m ∈ allMoveValues.filter (fun m => b.legal T m) ↔ m ∈ b.legalMoves T) ∧
    ((b.legalMoves T).Nodup → (allMoveValues.filter fun m => b.legal T m).Perm (b.legalMoves T)) :=
  ⟨mem_allMoveValues, allMoveValues_length, allMoveValues_nodup, mem_filter_legal_iff T b,
    filter_legal_perm T b⟩

/-! ### non-vacuity -/

/-- White: Ke1, Pe5; Black: Ke8, Pd5 (just played d7-d5, so `ep = some d5`); White to move -/
def exEpBoard : Board :=
  { pawns := 0x0000001800000000#64, knights := 0#64, bishops := 0#64, rooks := 0#64, queens := 0#64,
    kings := 0x1000000000000010#64, white := 0x0000001000000010#64, black := 0x1000000800000000#64,
    combined := 0x1000001800000010#64, stm := .white, wcr := .noRights, bcr := .noRights,
    pinned := 0#64, checkers := 0#64, hash := 0#64, ep := some ⟨35, by decide⟩ }

example : Struct exEpBoard :=
  have h : ∀ x ∈ allPieces, ∀ y ∈ allPieces, x ≠ y → exEpBoard.pieces x &&& exEpBoard.pieces y = 0#64 := by
    decide
  have hm : ∀ x : Piece, x ∈ allPieces := fun x => by cases x <;> decide
  Struct.of_eqs' (fun x y => h x (hm x) y (hm y)) (by decide) (by decide) (by decide)
example : own exEpBoard .king ≠ 0#64 := by decide
set_option maxRecDepth 100000 in
example : NoEpClash codeTables exEpBoard (decide (exEpBoard.checkers ≠ 0#64)) := by
  intro q s hq
  cases hq
  revert s
  decide +kernel
set_option maxRecDepth 100000 in
/-- e5-e6, e5xd6 e.p. (a second entry with source e5), and five king moves -/
example : (exEpBoard.legalMoves codeTables).length = 7 ∧
    (⟨⟨36, by decide⟩, ⟨43, by decide⟩, none⟩ : Move) ∈ exEpBoard.legalMoves codeTables ∧
    (enumerate codeTables exEpBoard).map (·.sq) = [⟨36, by decide⟩, ⟨36, by decide⟩, ⟨4, by decide⟩] := by
  decide +kernel

end Chess.Props
