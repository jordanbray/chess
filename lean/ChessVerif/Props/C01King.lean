import ChessVerif.Lemmas.KingMoves
import ChessVerif.Proofs.TablesOK
/-!
# C01 (king part) — the king's moves generated by `KingType::legals` are exactly the legal ones

For every table set with `TablesOK`, every board with the structural invariant `Struct` whose mover has
exactly one king (`KingMoves.OneKing`; on `Valid` positions: `KingMoves.oneKing_of_valid`), with
`p = b.abs` and `k = b.kingSquare b.stm`:

* `C01_legal_king_move` — `legal_king_move(board, d)` ⇔ no enemy man attacks `d` in the position
  `KingMoves.kingOn p k d` (the king lifted off `k` and standing on `d`; a man captured on `d` is gone);
* `C01_king_step` — for a king-step destination without an own man this is `legal p ⟨k, d, none⟩`;
* `C01_castle_kingside`, `C01_castle_queenside` — the code's castling test ⇔ `legal` of the castling move
  (needs: the right is backed by king and rook at home — the clause of `Valid` — and
  `checkers = 0 ⇔ not in check`);
* `C01_king_dests` — bit `d` of the destination set pushed by `KingType::legals` ⇔ `legal p ⟨k, d, none⟩`,
  both when `enumerate_moves` calls it with `in_check = false` (`checkers = 0`) and with `true`.

No discrepancy between model and specification was found in the king part.  In particular the rook's
move in castling cannot matter for the king's safety on its target square (`KingMoves.castle_core`): the
rook's home square is never strictly between an attacker and the target, and the rook's new square only
blocks.
-/
namespace Chess.Props

open KingMoves

/-- `legal_king_move(board, d)` holds iff no enemy man attacks `d` once the mover's king is lifted off its
square and put on `d` -/
theorem C01_legal_king_move {T : Tables} (hT : TablesOK T) {b : Board} (hs : Struct b) (h1 : OneKing b) (d : Sq) :
    MoveGen.legalKingMove T b d = true ↔
      attackedBy (kingOn b.abs (b.kingSquare b.stm) d) b.stm.other d = false :=
  legalKingMove_iff hT hs h1 d

/-- for a destination one king step away that holds no man of the mover, `legal_king_move` is FIDE
legality of the king step -/
theorem C01_king_step {T : Tables} (hT : TablesOK T) {b : Board} (hs : Struct b) (h1 : OneKing b) (d : Sq)
    (hstep : (T.king (b.kingSquare b.stm)).getLsbD d.val = true)
    (hown : (b.colorCombined b.stm).getLsbD d.val = false) :
    MoveGen.legalKingMove T b d = true ↔ legal b.abs ⟨b.kingSquare b.stm, d, none⟩ = true :=
  have h := king_step_legal_iff hT hs h1 d hstep
  ⟨fun hl => h.mp ⟨hown, hl⟩, fun hl => (h.mpr hl).2⟩

/-- the code's kingside castling test is FIDE legality of `O-O` -/
theorem C01_castle_kingside {T : Tables} (hT : TablesOK T) {b : Board} (hs : Struct b) (hv : Valid b.abs = true)
    (hchk : b.checkers = 0#64 ↔ inCheck b.abs b.stm = false) :
    (b.myCastleRights.ks = true ∧ b.combined &&& T.ksCastle b.stm = 0#64 ∧
      MoveGen.legalKingMove T b (b.kingSquare b.stm).uright = true ∧
      MoveGen.legalKingMove T b (b.kingSquare b.stm).uright.uright = true ∧
      b.checkers = 0#64) ↔
    legal b.abs ⟨b.kingSquare b.stm, (b.kingSquare b.stm).uright.uright, none⟩ = true := by
  rw [hchk]
  refine Iff.trans ?_ (castle_iff hT hs (oneKing_of_valid hs hv) true (backed_of_valid hs hv true))
  simp only [castleCode, Bool.and_eq_true, beq_iff_eq, and_assoc]
  exact Iff.rfl

/-- the code's queenside castling test is FIDE legality of `O-O-O` -/
theorem C01_castle_queenside {T : Tables} (hT : TablesOK T) {b : Board} (hs : Struct b) (hv : Valid b.abs = true)
    (hchk : b.checkers = 0#64 ↔ inCheck b.abs b.stm = false) :
    (b.myCastleRights.qs = true ∧ b.combined &&& T.qsCastle b.stm = 0#64 ∧
      MoveGen.legalKingMove T b (b.kingSquare b.stm).uleft = true ∧
      MoveGen.legalKingMove T b (b.kingSquare b.stm).uleft.uleft = true ∧
      b.checkers = 0#64) ↔
    legal b.abs ⟨b.kingSquare b.stm, (b.kingSquare b.stm).uleft.uleft, none⟩ = true := by
  rw [hchk]
  refine Iff.trans ?_ (castle_iff hT hs (oneKing_of_valid hs hv) false (backed_of_valid hs hv false))
  simp only [castleCode, Bool.and_eq_true, beq_iff_eq, and_assoc]
  exact Iff.rfl

/-- the king's entry: called as `enumerate_moves` calls it (`in_check = false` iff `checkers = 0`, mask
`!mine`), `KingType::legals` pushes the single entry `(ksq, dests)` (if not empty), and bit `d` of `dests`
is set iff the king move `ksq → d` (step or castling) is legal -/
theorem C01_king_dests {T : Tables} (hT : TablesOK T) {b : Board} (hs : Struct b) (hv : Valid b.abs = true)
    (hchk : b.checkers = 0#64 ↔ inCheck b.abs b.stm = false) (l : List Entry) :
    MoveGen.legalsKing T (!decide (b.checkers = 0#64)) l b (~~~(b.colorCombined b.stm)) =
        MoveGen.pushIf l ⟨b.kingSquare b.stm, destsKing T b (!decide (b.checkers = 0#64)), false⟩ ∧
      ∀ d : Sq, (destsKing T b (!decide (b.checkers = 0#64))).getLsbD d.val = true ↔
        legal b.abs ⟨b.kingSquare b.stm, d, none⟩ = true := by
  refine ⟨legalsKing_eq T _ l b, fun d => ?_⟩
  refine destsKing_iff hT hs (oneKing_of_valid hs hv) (backed_of_valid hs hv) _ ?_ d
  by_cases h0 : b.checkers = 0#64
  · rw [decide_eq_true h0]; exact hchk.mp h0
  · rw [decide_eq_false h0]
    cases hh : inCheck b.abs b.stm with
    | true => rfl
    | false => exact absurd (hchk.mpr hh) h0

/-- the same without reference to `checkers`: `ic` is the truth about check -/
theorem C01_king_dests_flag {T : Tables} (hT : TablesOK T) {b : Board} (hs : Struct b) (hv : Valid b.abs = true)
    (ic : Bool) (hic : inCheck b.abs b.stm = ic) (d : Sq) :
    (destsKing T b ic).getLsbD d.val = true ↔ legal b.abs ⟨b.kingSquare b.stm, d, none⟩ = true :=
  destsKing_iff hT hs (oneKing_of_valid hs hv) (backed_of_valid hs hv) ic hic d

/-! ### non-vacuity: `r3k2r/8/8/8/8/8/8/R3K2R w KQkq -` built by `try_from` with the code's tables: a valid
position, `checkers = 0`, not in check; both castlings and the step Ke2 are legal, and the king's entry has
exactly the bits c1, d1, f1, g1, d2, e2, f2 -/
def c01KingExBd : Builder where
  pieces s := match s.val with
    | 0 => some (.rook, .white) | 4 => some (.king, .white) | 7 => some (.rook, .white)
    | 56 => some (.rook, .black) | 60 => some (.king, .black) | 63 => some (.rook, .black)
    | _ => none
  stm := .white
  wcr := .both
  bcr := .both
  epFile := none

theorem c01KingEx_facts : ((Board.tryFrom codeTables c01KingExBd).map fun b =>
    Valid b.abs && b.checkers == 0#64 && !inCheck b.abs b.stm && b.kingSquare b.stm == 4 &&
    legal b.abs ⟨4, 6, none⟩ && legal b.abs ⟨4, 2, none⟩ && legal b.abs ⟨4, 12, none⟩ &&
    b.myCastleRights.ks && b.myCastleRights.qs &&
    (codeTables.king 4).getLsbD 12 && !(b.colorCombined b.stm).getLsbD 12 &&
    destsKing codeTables b false == 0x386C#64) = some true := by decide +kernel

/-- the hypotheses of all king theorems hold together on a board where both castlings are legal -/
example : ∃ b, TablesOK codeTables ∧ Struct b ∧ OneKing b ∧ Valid b.abs = true ∧
    (b.checkers = 0#64 ↔ inCheck b.abs b.stm = false) ∧
    legal b.abs ⟨b.kingSquare b.stm, (b.kingSquare b.stm).uright.uright, none⟩ = true ∧
    legal b.abs ⟨b.kingSquare b.stm, (b.kingSquare b.stm).uleft.uleft, none⟩ = true ∧
    (codeTables.king (b.kingSquare b.stm)).getLsbD (12 : Sq).val = true ∧
    (b.colorCombined b.stm).getLsbD (12 : Sq).val = false := by
  have h := c01KingEx_facts
  cases ht : Board.tryFrom codeTables c01KingExBd with
  | none => rw [ht] at h; cases h
  | some b =>
    rw [ht] at h
    simp only [Option.map_some, Option.some.injEq, Bool.and_eq_true, beq_iff_eq, Bool.not_eq_true'] at h
    obtain ⟨⟨⟨⟨⟨⟨⟨⟨⟨⟨⟨hv, h0⟩, hnc⟩, hk⟩, l1⟩, l2⟩, _⟩, _⟩, _⟩, k1⟩, k2⟩, _⟩ := h
    have hs : Struct b := (tryFrom_spec codeTables c01KingExBd b ht).1.toStruct
    refine ⟨b, codeTables_ok, hs, oneKing_of_valid hs hv, hv, ⟨fun _ => hnc, fun _ => h0⟩, ?_, ?_, ?_, ?_⟩
    · rw [hk]; exact l1
    · rw [hk]; exact l2
    · rw [hk]; exact k1
    · exact k2

end Chess.Props
