import ChessVerif.Lemmas.Final
import ChessVerif.Lemmas.GameExamples
import ChessVerif.Proofs.TablesOK
import ChessVerif.CodeTables
/-!
# C01 — legal move generation is exact

"For every valid position — set up directly or reached by any sequence of legal moves — the moves
generated are exactly the moves legal under the FIDE Laws: none missing, none extra, none twice; and
`Board::legal(m)` answers exactly whether `m` is one of them."

`Board.legalMoves T b` is the drained `MoveGen::new_legal(b)`, `Board.legal T b m` is `Board::legal`,
`legal b.abs m` is FIDE legality (`Spec/Rules.lean`) on the mailbox position `b.abs` the board describes.

The board invariant is `Board.Good T b := Core T b ∧ b.PinOK T ∧ Valid b.abs = true`: consistent bitboards and
hash, cached `pinned` / `checkers` equal to what `update_pin_info` computes, and the position is `Valid`.
Every side condition of the partial results (`C01Struct`, `C01NonKing`, `C01King`, `C01Ep`, `C03`) is derived
from it (`C01_good_side_conditions`); nothing is left as a hypothesis.

* `C01_movegen_exact` — on every `Good` board: no duplicates, and generated ⇔ FIDE-legal for every one of
  the 64 × 64 × 7 move values; all three check regimes of `enumerate_moves` (no check, single check, double
  check).  `C01_legalMoves_perm`: the generated list is a rearrangement of the specification's own list
  `Chess.legalMoves b.abs`, so the two have the same length (the perft count at depth 1).
* `C01_legal_query_exact` — `Board::legal(m) = legal b.abs m` for every move value.
* `C01_good_tryFrom`, `C01_good_of_valid_pos`, `C01_good_nullMove`, `C01_good_makeMove` — `Good` holds of
  every board `try_from` accepts whose position is valid; every valid position can be set up; `null_move`
  and `make_move_new` of a legal move preserve it (the latter yields `norm (apply position move)`).
* `C01_reachable_exact` — `PlayReachable`: set up directly, or reached by null moves and moves **taken from
  the library's own generated list**; every such board is `Good`, hence its generated moves are exactly the
  legal ones.  `C01_playReachable_iff` identifies this with reachability by FIDE-legal moves.
* `C01_en_passant_never_blocks`, `C01_ep_double_check` — a fact about the rules themselves that the assembly
  needs: an en-passant capture never answers a check given by a man other than the captured pawn; in
  double check none is legal (the generator does not even look).
-/
namespace Chess.Props
open Chess.Final Chess.Entries CheckPin

variable {T : Tables} {b : Board}

/-- everything the partial results ask for follows from `Good`: consistent bitboards, exactly one king per
side, the kings not adjacent, `checkers() == EMPTY` ⇔ not in check, `checkers()` = the attackers of the
mover's king, the mover's men in `pinned()` = the absolutely pinned men -/
theorem C01_good_side_conditions (hT : TablesOK T) (hg : b.Good T) :
    Struct b ∧ (∀ c, (b.kings &&& b.colorCombined c).popcnt = 1) ∧ KingsApart b ∧
    (b.checkers = 0#64 ↔ inCheck b.abs b.stm = false) ∧
    (∀ x : Sq, b.checkers.getLsbD x.val = checkerSq b.abs x) ∧
    (∀ y : Sq, (b.pinned &&& b.colorCombined b.stm).getLsbD y.val = pinnedSq b.abs y) :=
  ⟨hg.struct, hg.oneKing, hg.kingsApart, hg.checkers_zero_iff hT, (hg.exact hT).checkers, (hg.exact hT).pinned⟩

/-- **C01.** On every well-formed board holding a valid position the generated move list has no
duplicates and contains a move value iff that move is legal under the FIDE Laws. -/
theorem C01_movegen_exact (hT : TablesOK T) (hg : b.Good T) :
    (b.legalMoves T).Nodup ∧ ∀ m : Move, m ∈ b.legalMoves T ↔ legal b.abs m = true :=
  ⟨movegen_nodup hT hg, movegen_mem_iff hT hg⟩

/-- the generated list is a rearrangement of the specification's list of legal moves; in particular both
have the same number of moves -/
theorem C01_legalMoves_perm (hT : TablesOK T) (hg : b.Good T) :
    (b.legalMoves T).Perm (Chess.legalMoves b.abs) ∧
    (b.legalMoves T).length = (Chess.legalMoves b.abs).length :=
  ⟨legalMoves_perm hT hg, (legalMoves_perm hT hg).length_eq⟩

/-- **C01, the query.** `Board::legal(m)` is FIDE legality of `m`, for every one of the 64 × 64 × 7 values
of `ChessMove` (a superset of the 20480 source/destination/promotion triples of the property). -/
theorem C01_legal_query_exact (hT : TablesOK T) (hg : b.Good T) (m : Move) :
    b.legal T m = legal b.abs m := legal_query_eq hT hg m

/-- the same as one statement about the list of all move values: it has every value once, 28672 of them, and
filtering it by FIDE legality gives a rearrangement of the generated list -/
theorem C01_legal_query_all_values (hT : TablesOK T) (hg : b.Good T) :
    (∀ m : Move, m ∈ allMoveValues) ∧ allMoveValues.length = 64 * 64 * 7 ∧ allMoveValues.Nodup ∧
    (allMoveValues.filter fun m => legal b.abs m).Perm (b.legalMoves T) := by
  refine ⟨mem_allMoveValues, allMoveValues_length, allMoveValues_nodup, ?_⟩
  have e : (fun m => legal b.abs m) = fun m => b.legal T m := funext fun m => (legal_query_eq hT hg m).symm
  rw [e]
  exact filter_legal_perm T b (movegen_nodup hT hg)

/-! ### the rule fact behind the double-check regime -/

/-- an en-passant capture never interposes: if an enemy man `y` other than the pawn `q` that has just made
its double step attacks the mover's king, it still does after the capture -/
theorem C01_en_passant_never_blocks {p : Pos} {q mid org k : Sq} (hf : EnPassant.EpFacts p q mid org) {m : Move}
    (hc : EnPassant.EpCtx p m k q) (hd : m.dst = mid) {y : Sq} (hy : p.colorAt y = some p.stm.other)
    (hyq : y ≠ q) (ha : attacks p y k = true) : inCheck (apply p m) p.stm = true :=
  ep_other_checker hf hc hd hy hyq ha

/-- in double check no en-passant capture is legal -/
theorem C01_ep_double_check (hT : TablesOK T) (hg : b.Good T) (h0 : b.checkers ≠ 0#64)
    (h1 : b.checkers.popcnt ≠ 1) (m : Move) (hep : isEnPassant b.abs m = true) : legal b.abs m = false := by
  cases hl : legal b.abs m with
  | false => rfl
  | true => exact (ep_illegal_double_check hT hg h0 h1 hl hep).elim

/-! ### closure of the invariant -/

/-- a board accepted by `try_from` whose position is valid (`try_from` accepts more than that) -/
theorem C01_good_tryFrom {bd : Builder} (ht : Board.tryFrom T bd = some b) (hv : Valid b.abs = true) :
    b.Good T := .tryFrom ht hv

/-- every valid position can be set up: `try_from` accepts its builder state, and the board holds the
position (its en-passant mark under the recording policy `norm`) -/
theorem C01_good_of_valid_pos (hT : TablesOK T) {p : Pos} (hv : Valid p = true) :
    ∃ b, Board.tryFrom T p.toBuilder = some b ∧ b.abs = norm p ∧ b.Good T := Board.Good.exists_of_valid hT hv

/-- `null_move` (possible only when not in check) keeps the invariant -/
theorem C01_good_nullMove (hT : TablesOK T) (hg : b.Good T) {b' : Board} (h : b.nullMove T = some b') :
    b'.Good T := hg.nullMove hT h

/-- `make_move_new` of a FIDE-legal move does not panic, keeps the invariant and yields the successor
position of the specification -/
theorem C01_good_makeMove (hT : TablesOK T) (hg : b.Good T) {m : Move} (hl : legal b.abs m = true) :
    ∃ b', b.makeMoveNew T m = some b' ∧ b'.Good T ∧ b'.abs = norm (apply b.abs m) := hg.makeMove hT hl

/-- the same for a move taken from the generated list -/
theorem C01_good_makeMove_generated (hT : TablesOK T) (hg : b.Good T) {m : Move} (hm : m ∈ b.legalMoves T) :
    ∃ b', b.makeMoveNew T m = some b' ∧ b'.Good T ∧ b'.abs = norm (apply b.abs m) :=
  hg.makeMove hT ((movegen_mem_iff hT hg m).mp hm)

/-- **C01 along play.** Every board set up directly with a valid position, or reached from such a board by
any sequence of null moves and moves of the library's own generated lists, is well-formed and holds a valid
position; its generated moves are exactly the FIDE-legal moves, each once, and `Board::legal` decides
legality. -/
theorem C01_reachable_exact (hT : TablesOK T) (h : PlayReachable T b) :
    b.Good T ∧ (b.legalMoves T).Nodup ∧ (∀ m : Move, m ∈ b.legalMoves T ↔ legal b.abs m = true) ∧
    (∀ m : Move, b.legal T m = legal b.abs m) :=
  have hg := h.good hT
  ⟨hg, movegen_nodup hT hg, movegen_mem_iff hT hg, legal_query_eq hT hg⟩

/-- reachability by generated moves is reachability by FIDE-legal moves -/
theorem C01_playReachable_iff (hT : TablesOK T) (b : Board) : PlayReachable T b ↔ PinStep.Reached T b :=
  playReachable_iff_reached hT b

/-- with the tables of the code -/
theorem C01_reachable_exact_code (h : PlayReachable codeTables b) :
    (b.legalMoves codeTables).Nodup ∧ ∀ m : Move, m ∈ b.legalMoves codeTables ↔ legal b.abs m = true :=
  have r := C01_reachable_exact codeTables_ok h
  ⟨r.2.1, r.2.2.1⟩

/-! ### non-vacuity -/

section Examples
open GameExamples

theorem startPos_valid : Valid startBoard.abs = true := by decide +kernel

/-- 1. e4 on a board that holds the initial position -/
theorem startPos_e4 {b : Board} (habs : b.abs = norm startBoard.abs) : legal b.abs ⟨12, 28, none⟩ = true := by
  rw [habs, Closure.legal_norm]; decide +kernel

/-- the initial position, set up through `try_from` with the code's tables, is `Good` and `PlayReachable`;
`C01_movegen_exact` there: e2–e4 is generated, e2–e5 is not; the generator yields twenty moves (evaluated on
the model), hence by `C01_legalMoves_perm` the specification's own list has twenty moves too -/
example : ∃ b, Board.tryFrom codeTables startBoard.abs.toBuilder = some b ∧ b.Good codeTables ∧
    PlayReachable codeTables b ∧ (b.legalMoves codeTables).Nodup ∧
    (⟨12, 28, none⟩ : Move) ∈ b.legalMoves codeTables ∧ (⟨12, 36, none⟩ : Move) ∉ b.legalMoves codeTables ∧
    (b.legalMoves codeTables).length = 20 ∧ (Chess.legalMoves b.abs).length = 20 := by
  obtain ⟨b, ht, habs, hg⟩ := C01_good_of_valid_pos codeTables_ok startPos_valid
  have hex := C01_movegen_exact codeTables_ok hg
  have hlen : (b.legalMoves codeTables).length = 20 := by
    have h : ((Board.tryFrom codeTables startBoard.abs.toBuilder).map fun b =>
        (b.legalMoves codeTables).length) = some 20 := by decide +kernel
    rw [ht] at h
    exact Option.some.inj h
  refine ⟨b, ht, hg, .start _ b ht hg.valid, hex.1, ?_, ?_, hlen, ?_⟩
  · exact (hex.2 _).mpr (startPos_e4 habs)
  · rw [hex.2, habs, Closure.legal_norm]; decide +kernel
  · rw [← (C01_legalMoves_perm codeTables_ok hg).2]; exact hlen

/-- the hypotheses of the closure theorems: after 1. e4 the board is `Good` again and holds the successor
position -/
example : ∃ b b' : Board, b.Good codeTables ∧ b.makeMoveNew codeTables ⟨12, 28, none⟩ = some b' ∧ b'.Good codeTables ∧
    PlayReachable codeTables b' := by
  obtain ⟨b, ht, habs, hg⟩ := C01_good_of_valid_pos codeTables_ok startPos_valid
  have hl := startPos_e4 habs
  obtain ⟨b', hm, hg', _⟩ := C01_good_makeMove codeTables_ok hg hl
  exact ⟨b, b', hg, hm, hg',
    .move b b' _ (.start _ b ht hg.valid) ((C01_movegen_exact codeTables_ok hg).2 _ |>.mpr hl) hm⟩

end Examples

end Chess.Props
