import ChessVerif.Lemmas.Sane
import ChessVerif.Props.TextTotal
import ChessVerif.Props.C10NoPanic
import ChessVerif.Proofs.TablesOK
/-!
# C07 — converting text or a builder state into a position

`parseBoard` models `Board::from_str`, `Board.tryFrom` models `Board::try_from(&BoardBuilder)`
(`ChessVerif/Model/Text.lean`, `ChessVerif/Model/Board.lean`); panics are the `.panic` value of `Res`
and `none` of the `Option`-valued model functions that contain an `unwrap`.  The abstract position of
an accepted board is `Board.abs` (`ChessVerif/Refine/Abs.lean`), the rules are `ChessVerif/Spec/Rules.lean`.

All statements are for every table set `T`; `TablesOK T` ("every look-up table has its geometric
content", proved for the tables of the code in C16) is assumed only where a table's content matters.

Parts:
1. totality (no panic path);
2. the structural invariant `Struct` of every accepted board; what `is_sane` itself checks of it;
3. acceptance soundness (kings, men, castling rights, en-passant mark, non-mover not in check);
4. capacity of the 18-slot move list, and application of generated moves;
5. acceptance completeness — stated (`C07_accept_complete_full`) and reduced to the two check-detection
   clauses of `is_sane` here; those, and (e) of part 3 on the rules, are proved in `Props/C07Full.lean`.
-/
namespace Chess.Props
open Chess Chess.GameExamples

/-! ### 1. no panic -/

/-- `Board::from_str` never panics, whatever the text -/
theorem C07_parse_total (T : Tables) (s : List Char) : parseBoard T s ≠ .panic :=
  parseBoard_ne_panic T s (parseBuilder_total s)

/-- `Board::try_from(&BoardBuilder)` has no panic path: for every builder state it builds the candidate
board `tryFromPre` (placement loop, side, en-passant mark, rights, pin info — all total) and returns it
iff `is_sane` accepts it -/
theorem C07_tryFrom_total (T : Tables) (bd : Builder) :
    Board.tryFrom T bd = if (tryFromPre T bd).isSane T then some (tryFromPre T bd) else none :=
  tryFrom_eq T bd

/-- text is accepted iff it scans to a builder state that `try_from` accepts -/
theorem C07_parse_ok_iff (T : Tables) (s : List Char) (b : Board) :
    parseBoard T s = .ok b ↔ ∃ bd, parseBuilder s = .ok bd ∧ Board.tryFrom T bd = some b :=
  parseBoard_ok_iff T s b

/-! ### 2. the structural invariant -/

/-- every accepted board: piece boards pairwise disjoint, colour boards disjoint, `combined` is both the
union of the colour boards and the union of the piece boards; the raw hash is the placement hash -/
theorem C07_accepted_core {T : Tables} {bd : Builder} {b : Board} (h : Board.tryFrom T bd = some b) :
    Core T b := (tryFrom_spec T bd b h).1

theorem C07_accepted_struct {T : Tables} {bd : Builder} {b : Board} (h : Board.tryFrom T bd = some b) :
    Struct b := tryFrom_struct h

/-- every accepted board holds exactly the builder's men, side and rights -/
theorem C07_accepted_content {T : Tables} {bd : Builder} {b : Board} (h : Board.tryFrom T bd = some b) :
    b.abs.board = bd.pieces ∧ b.abs.stm = bd.stm ∧
    (∀ c, b.abs.castleK c = (bd.castleRights c).ks) ∧ (∀ c, b.abs.castleQ c = (bd.castleRights c).qs) := by
  obtain ⟨_, h2, h3, h4, h5, _⟩ := tryFrom_spec T bd b h
  have hcr : ∀ c, b.castleRights c = bd.castleRights c := fun c => by
    cases c
    · exact h4
    · exact h5
  exact ⟨h2, h3, fun c => congrArg CastleRights.ks (hcr c), fun c => congrArg CastleRights.qs (hcr c)⟩

/-- `is_sane` alone gives `Struct` up to the clause it does not test (`white | black = combined`) -/
theorem C07_isSane_struct {T : Tables} {b : Board} (h : b.isSane T = true)
    (hc : ∀ i, b.combined.getLsbD i = (b.white.getLsbD i || b.black.getLsbD i)) : Struct b :=
  isSane_struct_of_comb_color h hc

/-- two bare kings (e1, e8) plus a stray bit on e3 in the white colour board -/
def strayBoard : Board :=
  { Board.blank with kings := 0x1000000000000010#64, white := 0x100010#64, black := 0x1000000000000000#64,
                     combined := 0x1000000000000010#64 }

/-- … and that clause is really missing: `is_sane` (real tables) accepts a board whose white colour board
has a bit outside `combined`.  (Such a board cannot come out of `try_from`: `C07_accepted_struct`.) -/
theorem C07_isSane_not_struct : strayBoard.isSane codeTables = true ∧ ¬ Struct strayBoard := by
  refine ⟨by decide +kernel, fun h => ?_⟩
  have := h.comb_color 20
  revert this
  decide

/-! ### 3. acceptance soundness -/

/-- (a) exactly one king of each colour -/
theorem C07_one_king_each {T : Tables} {bd : Builder} {b : Board} (h : Board.tryFrom T bd = some b) (c : Color) :
    count b.abs (· == (.king, c)) = 1 := by
  rw [(tryFrom_struct h).count_piece_color]
  exact (tryFrom_facts h).king c

/-- (b) at most 16 men of each colour -/
theorem C07_men_bounded {T : Tables} {bd : Builder} {b : Board} (h : Board.tryFrom T bd = some b) (c : Color) :
    count b.abs (·.2 == c) ≤ 16 := by
  rw [(tryFrom_struct h).count_color]
  exact (tryFrom_facts h).men c

/-- (c) every castling right is backed by king and rook on their home squares (squares named through the
model's `mkSq rank file`: e-file = 4, h-file = 7, a-file = 0) -/
theorem C07_rights_backed_squares {T : Tables} (hT : TablesOK T) {bd : Builder} {b : Board}
    (h : Board.tryFrom T bd = some b) (c : Color) :
    ((b.castleRights c).ks = true →
      b.abs.has (mkSq c.backrank 4) .king c = true ∧ b.abs.has (mkSq c.backrank 7) .rook c = true) ∧
    ((b.castleRights c).qs = true →
      b.abs.has (mkSq c.backrank 4) .king c = true ∧ b.abs.has (mkSq c.backrank 0) .rook c = true) := by
  have hs := tryFrom_struct h
  have hf := tryFrom_facts h
  exact ⟨fun hk => ⟨hf.king_home hT hs c (.inl hk), (hf.rook_home hs c).1 hk⟩,
         fun hq => ⟨hf.king_home hT hs c (.inr hq), (hf.rook_home hs c).2 hq⟩⟩

/-- (c) in the wording of `Valid` (`Spec/Rules.lean`) -/
theorem C07_rights_backed {T : Tables} (hT : TablesOK T) {bd : Builder} {b : Board}
    (h : Board.tryFrom T bd = some b) (c : Color) :
    (b.abs.castleK c = true →
      (homeSq c 4).any (b.abs.has · .king c) = true ∧ (homeSq c 7).any (b.abs.has · .rook c) = true) ∧
    (b.abs.castleQ c = true →
      (homeSq c 4).any (b.abs.has · .king c) = true ∧ (homeSq c 0).any (b.abs.has · .rook c) = true) :=
  (tryFrom_facts h).rightsSane hT (tryFrom_struct h) c

/-- (c') the rook half needs no table: `unmoved_rooks` is computed from rank and file -/
theorem C07_rights_backed_rook {T : Tables} {bd : Builder} {b : Board} (h : Board.tryFrom T bd = some b) (c : Color) :
    ((b.castleRights c).ks = true → b.abs.has (mkSq c.backrank 7) .rook c = true) ∧
    ((b.castleRights c).qs = true → b.abs.has (mkSq c.backrank 0) .rook c = true) :=
  (tryFrom_facts h).rook_home (tryFrom_struct h) c

/-- (d) a recorded en-passant mark is the square of a pawn of the side that just moved, standing on that
side's fourth rank (= its double-push rank `pawnRank + 2·fwd` of the Spec), on the builder's file -/
theorem C07_ep_refers_to_pawn {T : Tables} {bd : Builder} {b : Board} (h : Board.tryFrom T bd = some b) (q : Sq)
    (hq : b.ep = some q) :
    b.abs.has q .pawn b.stm.other = true ∧ q.getRank = b.stm.other.fourthRank ∧
    q.rank = b.stm.other.pawnRank + 2 * b.stm.other.fwd ∧ bd.epFile = some q.getFile := by
  obtain ⟨h1, h2⟩ := tryFrom_ep_rank h q hq
  exact ⟨(tryFrom_facts h).ep_pawn (tryFrom_struct h) q hq, h1, (fourthRank_iff _ _).mp h1, h2⟩

/-- (e) full statement: the side not to move is not in check (rules of `Spec/Rules.lean`).  Its proof needs
the geometric reading of `update_pin_info`'s check detection: `C07_nonmover_not_in_check_holds` in
`Props/C07Full.lean`. -/
def C07_nonmover_not_in_check_full : Prop :=
  ∀ (T : Tables), TablesOK T → ∀ (bd : Builder) (b : Board), Board.tryFrom T bd = some b →
    inCheck b.abs b.stm.other = false

/-- (e, model level) the check detection of the code, run for the side not to move, reports no checker,
and no king stands next to the white king -/
theorem C07_nonmover_no_checkers {T : Tables} {bd : Builder} {b : Board} (h : Board.tryFrom T bd = some b) :
    (Board.updatePinInfo T { b with stm := b.stm.other }).checkers = 0#64 ∧
    T.king (b.kingSquare .white) &&& b.kings = 0#64 :=
  ⟨(tryFrom_facts h).nocheck, (tryFrom_facts h).kings_apart⟩

/-- (a)–(d) together, for text -/
theorem C07_parse_accept_sound {T : Tables} (hT : TablesOK T) {s : List Char} {b : Board}
    (h : parseBoard T s = .ok b) :
    (∀ c, count b.abs (· == (.king, c)) = 1) ∧ (∀ c, count b.abs (·.2 == c) ≤ 16) ∧
    (∀ c, (b.abs.castleK c = true →
        (homeSq c 4).any (b.abs.has · .king c) = true ∧ (homeSq c 7).any (b.abs.has · .rook c) = true) ∧
      (b.abs.castleQ c = true →
        (homeSq c 4).any (b.abs.has · .king c) = true ∧ (homeSq c 0).any (b.abs.has · .rook c) = true)) ∧
    (∀ q, b.abs.ep = some q → b.abs.has q .pawn b.abs.stm.other = true ∧
      q.rank = b.abs.stm.other.pawnRank + 2 * b.abs.stm.other.fwd) ∧
    (Board.updatePinInfo T { b with stm := b.stm.other }).checkers = 0#64 := by
  obtain ⟨bd, _, ht⟩ := (parseBoard_ok_iff T s b).mp h
  refine ⟨C07_one_king_each ht, C07_men_bounded ht, C07_rights_backed hT ht, ?_, (C07_nonmover_no_checkers ht).1⟩
  intro q hq
  have := C07_ep_refers_to_pawn ht q hq
  exact ⟨this.1, this.2.2.1⟩

/-! ### 4. capacity and safety of what is done with an accepted board -/

/-- `MoveList` has 18 slots filled with `push_unchecked`.  A board with consistent bitboards, at most 16 men
of the side to move and a king of that side never produces more than 18 entries. -/
theorem C07_enumerate_capacity {T : Tables} (hT : TablesOK T) {b : Board} (hs : Struct b)
    (hmen : (b.colorCombined b.stm).popcnt ≤ 16) (hk : (b.kings &&& b.colorCombined b.stm).popcnt = 1) :
    (MoveGen.enumerate T b).length ≤ 18 :=
  MoveGen.enumerate_length hT hs hmen (by omega)

/-- every accepted board stays within the 18 slots -/
theorem C07_accepted_capacity {T : Tables} (hT : TablesOK T) {bd : Builder} {b : Board}
    (h : Board.tryFrom T bd = some b) : (MoveGen.enumerate T b).length ≤ 18 :=
  MoveGen.enumerate_length hT (tryFrom_struct h) ((tryFrom_facts h).men _)
    (Nat.le_of_eq ((tryFrom_facts h).king _).symm)

/-- without a table hypothesis: 16 entries for the men, plus one per square of the en-passant source set -/
theorem C07_legalsPawn_capacity (T : Tables) (ic : Bool) (l : List Entry) (b : Board) (mask : BB) :
    (MoveGen.legalsPawn T ic l b mask).length ≤ l.length + (b.pawns &&& b.colorCombined b.stm).popcnt +
      (match b.ep with
       | none => 0
       | some e => (T.ranks e.getRank &&& T.adjFiles e.getFile &&& (b.pawns &&& b.colorCombined b.stm)).popcnt) :=
  MoveGen.legalsPawn_length_ep T ic l b mask

/-- 16 white pawns (a2–h2, a4 b4 c4 g4 h4, d5 f5, a6), **no white king**; black pawn e5 (just double-pushed),
black king h8 -/
def noKingBoard : Board :=
  { Board.blank with pawns := 0x0138C700FF00#64, kings := 0x8000000000000000#64, white := 0x0128C700FF00#64,
                     black := 0x8000001000000000#64, combined := 0x80000138C700FF00#64, ep := some 36 }

/-- the king hypothesis of `C07_enumerate_capacity` cannot be dropped: with the real tables, a structurally
consistent board with 16 men of the side to move but no king of that side yields 19 entries (16 pawn pushes,
2 en-passant captures, and the "king" entry for the square `to_square` invents from the empty board) -/
theorem C07_capacity_needs_king : Struct noKingBoard ∧ (noKingBoard.colorCombined noKingBoard.stm).popcnt = 16 ∧
    (MoveGen.enumerate codeTables noKingBoard).length = 19 := by
  exact ⟨Struct.of_decide (by decide), by decide +kernel, by decide +kernel⟩

/-- the `unwrap` of `legal_ep_move` cannot fail where the generator calls it (inside `if let Some(ep)`) -/
theorem C07_legalEpMove_no_panic (T : Tables) (b : Board) (s d : Sq) (h : b.ep.isSome = true) :
    (MoveGen.legalEpMove T b s d).isSome = true := legalEpMove_isSome T b s d h

/-- applying any generated move to an accepted board does not panic (C10) -/
theorem C07_make_generated_no_panic {T : Tables} {bd : Builder} {b : Board} (h : Board.tryFrom T bd = some b)
    (m : Move) (hm : m ∈ b.legalMoves T) : (b.makeMoveNew T m).isSome = true :=
  C10_legal_makeMove_some_of_isSane (tryFrom_isSane h) (by unfold Board.legal; simpa using hm)

/-! ### 5. completeness -/

/-- every valid position is accepted, and the accepted board describes it (with the en-passant mark kept
under the library's recording policy `norm`).  Proved below up to the two check-detection clauses of
`is_sane` (`C07_accept_complete_partial`, `C07_accept_complete_of_check_clauses`); in full as
`C07_accept_complete` in `Props/C07Full.lean`. -/
def C07_accept_complete_full : Prop :=
  ∀ (T : Tables), TablesOK T → ∀ p : Pos, Valid p = true →
    ∃ b, Board.tryFrom T p.toBuilder = some b ∧
      b.abs.board = (norm p).board ∧ b.abs.stm = (norm p).stm ∧
      (∀ c, b.abs.castleK c = (norm p).castleK c) ∧ (∀ c, b.abs.castleQ c = (norm p).castleQ c) ∧
      b.abs.ep = (norm p).ep

/-- what is left: on the candidate board of a valid position the code's check detection, run for the side
not to move, finds no checker, and no king stands next to the white king (`CheckClauses`, `Lemmas/Sane.lean`) -/
def C07_valid_passes_check_clauses_full : Prop :=
  ∀ (T : Tables), TablesOK T → ∀ p : Pos, Valid p = true → CheckClauses T (tryFromPre T p.toBuilder)

/-- a valid position whose candidate board passes the two check-detection clauses is accepted: every other
clause of `is_sane` (disjointness, unions, one king each, at most 16 men, en-passant pawn, rooks and king at
home for every right) follows from `Valid`, and the accepted board is `norm p` field by field -/
theorem C07_accept_complete_partial {T : Tables} (hT : TablesOK T) {p : Pos} (hv : Valid p = true)
    (hc : CheckClauses T (tryFromPre T p.toBuilder)) :
    ∃ b, Board.tryFrom T p.toBuilder = some b ∧
      b.abs.board = (norm p).board ∧ b.abs.stm = (norm p).stm ∧
      (∀ c, b.abs.castleK c = (norm p).castleK c) ∧ (∀ c, b.abs.castleQ c = (norm p).castleQ c) ∧
      b.abs.ep = (norm p).ep :=
  tryFrom_complete_partial hT hv hc

theorem C07_accept_complete_of_check_clauses (h : C07_valid_passes_check_clauses_full) :
    C07_accept_complete_full :=
  fun T hT p hv => C07_accept_complete_partial hT hv (h T hT p hv)

/-- `is_sane` is exactly the conjunction of its clauses (`SaneFacts`): nothing else can make `try_from` fail -/
theorem C07_isSane_iff (T : Tables) (b : Board) : b.isSane T = true ↔ SaneFacts T b := isSane_iff_facts

/-! ### non-vacuity: the hypotheses are satisfiable with the tables of the code -/

theorem Res.ok_of_match {α : Type} (r : Res α) (f : α → Bool)
    (h : (match r with | .ok b => f b | _ => false) = true) : ∃ b, r = .ok b ∧ f b = true := by
  cases r with
  | ok b => exact ⟨b, rfl, h⟩
  | err => cases h
  | panic => cases h

def startFen : List Char := "rnbqkbnr/pppppppp/8/8/8/8/PPPPPPPP/RNBQKBNR w KQkq - 0 1".toList
/-- black pawn on d4, White has just played e2-e4: the mark e4 is kept because the d4 pawn stands beside it -/
def epFen : List Char := "rnbqkbnr/ppp1pppp/8/8/3pP3/8/PPPP1PPP/RNBQKBNR b KQkq e3 0 1".toList

/-- what `C07_start_accepted` reads off the accepted board.  A named function, not a `fun` at the call of
`Res.ok_of_match`: there the hypothesis would contain a beta-redex, the evaluated fact would not be literally
the hypothesis, and the kernel would evaluate the text a second time to compare them. -/
def startChecks (b : Board) : Bool :=
  (b.castleRights .white).ks && (b.castleRights .black).qs &&
    ((b.legalMoves codeTables).length == 20) && ((MoveGen.enumerate codeTables b).length == 10)

/-- the initial position is accepted from text, with its rights; 20 legal moves held in 10 entries -/
theorem C07_start_accepted : ∃ bd b, parseBuilder startFen = .ok bd ∧ Board.tryFrom codeTables bd = some b ∧
    (b.castleRights .white).ks = true ∧ (b.castleRights .black).qs = true ∧
    (b.legalMoves codeTables).length = 20 ∧ (MoveGen.enumerate codeTables b).length = 10 := by
  obtain ⟨b, hb, hf⟩ := Res.ok_of_match (parseBoard codeTables startFen) startChecks (by decide +kernel)
  obtain ⟨bd, h1, h2⟩ := (parseBoard_ok_iff _ _ _).mp hb
  simp only [startChecks, Bool.and_eq_true, beq_iff_eq] at hf
  exact ⟨bd, b, h1, h2, hf.1.1.1, hf.1.1.2, hf.1.2, hf.2⟩

/-- a position with a recorded en-passant mark (e4 = square 28) is accepted -/
theorem C07_ep_accepted : ∃ bd b, Board.tryFrom codeTables bd = some b ∧ b.ep = some 28 := by
  obtain ⟨b, hb, hf⟩ := Res.ok_of_match (parseBoard codeTables epFen) ((· == some 28) ∘ Board.ep) (by decide +kernel)
  obtain ⟨bd, _, h2⟩ := (parseBoard_ok_iff _ _ _).mp hb
  exact ⟨bd, b, h2, eq_of_beq hf⟩

set_option maxRecDepth 100000 in
/-- the builder state read off the initial `Board` value is accepted as well -/
example : (Board.tryFrom codeTables startBoard.toBuilder).isSome = true := by decide +kernel

/-- (a), (b), (c), capacity, application of generated moves: instantiated on the initial position -/
example : ∃ bd b, Board.tryFrom codeTables bd = some b ∧
    count b.abs (· == (.king, .white)) = 1 ∧ count b.abs (·.2 == .black) ≤ 16 ∧
    b.abs.has (mkSq 0 4) .king .white = true ∧ b.abs.has (mkSq 0 7) .rook .white = true ∧
    (MoveGen.enumerate codeTables b).length ≤ 18 ∧
    (∃ m, m ∈ b.legalMoves codeTables) ∧ (∀ m ∈ b.legalMoves codeTables, (b.makeMoveNew codeTables m).isSome = true) := by
  obtain ⟨bd, b, _, h, hk, _, hl, _⟩ := C07_start_accepted
  have hr := ((C07_rights_backed_squares codeTables_ok h .white).1 hk)
  refine ⟨bd, b, h, C07_one_king_each h .white, C07_men_bounded h .black, hr.1, hr.2,
    C07_accepted_capacity codeTables_ok h, ?_, fun m hm => C07_make_generated_no_panic h m hm⟩
  cases hlm : b.legalMoves codeTables with
  | nil => rw [hlm] at hl; cases hl
  | cons m _ => exact ⟨m, List.mem_cons_self⟩

/-- (d) instantiated: the mark of `epFen` is a white pawn on White's fourth rank -/
example : ∃ bd b q, Board.tryFrom codeTables bd = some b ∧ b.ep = some q ∧
    b.abs.has q .pawn b.stm.other = true ∧ q.getRank = b.stm.other.fourthRank := by
  obtain ⟨bd, b, h, hq⟩ := C07_ep_accepted
  have := C07_ep_refers_to_pawn h 28 hq
  exact ⟨bd, b, 28, h, hq, this.1, this.2.1⟩

/-- `C07_parse_total`, `C07_parse_accept_sound` on rejected and accepted text -/
example : parseBoard codeTables "8/8/8/8/8/8/8/8 w - - 0 1".toList = .err := by decide +kernel
example : ∃ b, parseBoard codeTables startFen = .ok b := by
  obtain ⟨bd, b, h1, h2, _⟩ := C07_start_accepted
  exact ⟨b, (parseBoard_ok_iff _ _ _).mpr ⟨bd, h1, h2⟩⟩

/-- `C07_enumerate_capacity` on the initial `Board` value -/
example : (MoveGen.enumerate codeTables startBoard).length ≤ 18 :=
  C07_enumerate_capacity codeTables_ok (Struct.of_decide (by decide)) (by decide +kernel) (by decide +kernel)

set_option maxRecDepth 100000 in
/-- `C07_accept_complete_partial` on the initial position (as a `Pos`): it is valid, its candidate board
passes the check clauses under the real tables -/
example : ∃ b, Board.tryFrom codeTables startBoard.abs.toBuilder = some b ∧ b.abs.board = startBoard.abs.board :=
  have hv : Valid startBoard.abs = true := by decide +kernel
  have hc : CheckClauses codeTables (tryFromPre codeTables startBoard.abs.toBuilder) :=
    ⟨by decide +kernel, by decide +kernel⟩
  let ⟨b, h1, h2, _⟩ := C07_accept_complete_partial codeTables_ok hv hc
  ⟨b, h1, h2⟩

end Chess.Props
