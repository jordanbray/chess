import ChessVerif.Lemmas.Cache
/-!
# C19 — `CacheTable` returns only what was stored under exactly that hash

Model: `Chess.Cache α` (`ChessVerif/Model/Cache.lean`): `table : List (hash × entry)`, `mask`, slot of a
hash = `(hash as usize) & mask`; an outer `none` models the `panic!` of `new` on a size that is not a
power of two, and an out-of-table access of the unchecked indexing in `get`/`add`/`replace_if`.
Specification: `Chess.Spec.CacheSpec α`: a map slot ↦ (hash, value) over slots `hash mod size`, an
untouched slot behaving as `(0, default)`.  Operation sequences are `List (Cache.Op α)`
(`add h v | replaceIf h v p | get h`); `Cache.runModel` / `Cache.runSpec` collect the results of the
`get`s; `Cache.Reachable c` = `c` is the state after some sequence run on a table made by `new`.
All statements are generic in the entry type `α` and hold for every size, hash and sequence.
-/
namespace Chess.Props
open Chess.Cache
variable {α : Type}

/-- `new` panics exactly when the size (a `usize`) is not a power of two -/
theorem C19_new_panics_iff (size : Nat) (d : α) (hs : size < 2 ^ 64) :
    (Cache.new size d).isNone ↔ ¬ Spec.isPow2 size = true := by
  rw [isPow2_iff_popcount size hs]
  unfold Cache.new
  by_cases h : popcountNat size = 1 <;> simp [h]

/-- `count_ones() == 1` characterises powers of two, with no bound on the number -/
theorem C19_popcount_one_iff_pow2 (n : Nat) : popcountNat n = 1 ↔ ∃ k, n = 2 ^ k :=
  popcountNat_eq_one_iff n

/-- after any sequence of operations on a table made by `new`, every hash indexes inside the table -/
theorem C19_index_in_range {size : Nat} {d : α} {c0 c : Cache α} (hn : Cache.new size d = some c0)
    (ops : List (Op α)) (outs : List (Option α)) (he : execModel c0 ops = some (c, outs)) (h : BB) :
    c.slot h < c.table.length := by
  obtain ⟨s, r⟩ := Reachable.rel ⟨size, d, c0, ops, outs, hn, he⟩
  exact r.2.1.slot_lt h

/-- no operation sequence on a table made by `new` ever reaches the out-of-table case -/
theorem C19_no_out_of_table {size : Nat} {d : α} {c0 : Cache α} (hn : Cache.new size d = some c0)
    (ops : List (Op α)) : (execModel c0 ops).isSome = true := by
  obtain ⟨c', e, _⟩ := (Rel_new hn).exec ops
  rw [e]; rfl

/-- a reachable table never takes the out-of-table branch of `get`, `add`, `replace_if` -/
theorem C19_ops_defined {c : Cache α} (hc : Reachable c) (h : BB) (v : α) (p : α → Bool) :
    (c.get h).isSome = true ∧ (c.add h v).isSome = true ∧ (c.replaceIf h v p).isSome = true := by
  obtain ⟨s, r⟩ := hc.rel
  obtain ⟨_, e1, _⟩ := r.add h v
  obtain ⟨_, e2, _⟩ := r.replaceIf h v p
  rw [r.get h, e1, e2]
  exact ⟨rfl, rfl, rfl⟩

/-- the refinement relation holds initially and is preserved by every operation; `get` agrees -/
theorem C19_rel_new {size : Nat} {d : α} {c : Cache α} (h : Cache.new size d = some c) :
    Rel c (Spec.CacheSpec.new size d) := Rel_new h

theorem C19_rel_add {c : Cache α} {s : Spec.CacheSpec α} (r : Rel c s) (h : BB) (v : α) :
    ∃ c', c.add h v = some c' ∧ Rel c' (s.add h v) := r.add h v

theorem C19_rel_replaceIf {c : Cache α} {s : Spec.CacheSpec α} (r : Rel c s) (h : BB) (v : α)
    (p : α → Bool) : ∃ c', c.replaceIf h v p = some c' ∧ Rel c' (s.replaceIf h v p) := r.replaceIf h v p

theorem C19_rel_get {c : Cache α} {s : Spec.CacheSpec α} (r : Rel c s) (h : BB) :
    c.get h = some (s.get h) := r.get h

/-- every operation sequence gives, on the model, exactly the `get` results of the specification -/
theorem C19_refines {size : Nat} {d : α} {c0 : Cache α} (hn : Cache.new size d = some c0)
    (ops : List (Op α)) : runModel c0 ops = some (runSpec (Spec.CacheSpec.new size d) ops) := by
  obtain ⟨c', e, _⟩ := (Rel_new hn).exec ops
  simp only [runModel, runSpec, e, Option.map_some]

/-- a lookup right after `add h v` returns `v` -/
theorem C19_get_after_add {c : Cache α} (hc : Reachable c) (h : BB) (v : α) :
    ∃ c', c.add h v = some c' ∧ c'.get h = some (some v) := by
  obtain ⟨s, r⟩ := hc.rel
  obtain ⟨c', e, r'⟩ := r.add h v
  refine ⟨c', e, ?_⟩
  rw [r'.get h, Spec.CacheSpec.get_add_self]

/-- after `add h v`, a lookup under a different hash that maps to the same slot returns nothing -/
theorem C19_get_other_hash_same_slot {c : Cache α} (hc : Reachable c) (h h' : BB) (v : α)
    (hne : h' ≠ h) (hslot : c.slot h' = c.slot h) :
    ∃ c', c.add h v = some c' ∧ c'.get h' = some none := by
  obtain ⟨s, r⟩ := hc.rel
  obtain ⟨c', e, r'⟩ := r.add h v
  refine ⟨c', e, ?_⟩
  rw [r.slot_eq, r.slot_eq] at hslot
  rw [r'.get h', Spec.CacheSpec.get_add_same_slot s h h' v hne hslot]

/-- after `add h v`, a lookup that maps to another slot is unchanged -/
theorem C19_get_other_slot {c : Cache α} (hc : Reachable c) (h h' : BB) (v : α)
    (hslot : c.slot h' ≠ c.slot h) :
    ∃ c', c.add h v = some c' ∧ c'.get h' = c.get h' := by
  obtain ⟨s, r⟩ := hc.rel
  obtain ⟨c', e, r'⟩ := r.add h v
  refine ⟨c', e, ?_⟩
  rw [r.slot_eq, r.slot_eq] at hslot
  rw [r'.get h', r.get h', Spec.CacheSpec.get_add_other_slot s h h' v hslot]

/-- whatever `get h` returns (on any table) is what its slot holds under exactly the hash `h` -/
theorem C19_get_some_exact_hash {c : Cache α} (h : BB) (v : α)
    (hg : c.get h = some (some v)) : c.table[c.slot h]? = some (h, v) := by
  unfold Cache.get at hg
  split at hg
  · cases hg
  · rename_i h0 e heq
    rw [heq]
    by_cases hh : h0 = h
    · simp [hh] at hg; rw [hh, hg]
    · simp [hh] at hg

/-- a fresh table behaves as `(0, default)` in every slot: hash 0 finds the default, others nothing -/
theorem C19_fresh_slots {size : Nat} {d : α} {c0 : Cache α} (hn : Cache.new size d = some c0) :
    c0.get 0#64 = some (some d) ∧ ∀ h : BB, h ≠ 0#64 → c0.get h = some none := by
  have r := Rel_new hn
  constructor
  · rw [r.get, Spec.CacheSpec.get_untouched _ _ rfl]; rfl
  · intro h hne
    rw [r.get, Spec.CacheSpec.get_untouched _ _ rfl, if_neg hne]

/-- a slot that no `add`/`replace_if` of the sequence maps to still behaves as `(0, default)` afterwards -/
theorem C19_untouched_slots {size : Nat} {d : α} {c0 c : Cache α} (hn : Cache.new size d = some c0)
    (ops : List (Op α)) (outs : List (Option α)) (he : execModel c0 ops = some (c, outs)) (h : BB)
    (hu : ∀ op ∈ ops, ∀ h', op.hash = some h' → h'.toNat % size ≠ h.toNat % size) :
    c.get h = some (if h = 0#64 then some d else none) := by
  obtain ⟨c', e, r⟩ := (Rel_new hn).exec ops
  rw [he] at e
  cases e
  rw [r.get h]
  have := execSpec_untouched (Spec.CacheSpec.new size d) ops (h.toNat % size) hu
  obtain ⟨h1, h2, h3⟩ := this
  rw [Spec.CacheSpec.get_untouched, h3]; rfl
  unfold Spec.CacheSpec.slotOf
  rw [h2]; exact h1

/-! non-vacuity: a table of 8 `Nat` entries exists, and a run with a slot collision
(hashes 3 and 11 share slot 3) gives the outputs the property describes -/
example : (Cache.new 8 (0 : Nat)).isSome = true ∧ (Cache.new 6 (0 : Nat)).isNone = true := by
  simp [Cache.new, popcountNat]

example : runSpec (Spec.CacheSpec.new 8 (0 : Nat))
    [.get 0#64, .get 3#64, .add 3#64 7, .get 3#64, .get 11#64, .add 11#64 9, .get 3#64, .get 11#64,
     .replaceIf 11#64 5 (fun e => e == 0), .get 11#64]
    = [some 0, none, some 7, none, none, some 9, some 9] := by decide

end Chess.Props
