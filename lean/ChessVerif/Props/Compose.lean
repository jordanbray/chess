import ChessVerif.Props.C01
import ChessVerif.Props.C04
import ChessVerif.Props.C05
import ChessVerif.Props.C12
/-!
# Compositions with C01: C04, C12 and C05 on the library's boards (C17: `Props/ComposeSym.lean`)

`C01_movegen_exact` (generated moves = FIDE-legal moves on every `Good` board) turns the statements that
other files prove relative to it into unconditional ones:

* `C04_status_exact` — `Board::status` is the status of the FIDE specification (`C04_full`);
* `C01_statement_holds`, `C12_complete_full_holds`, `C12_complete_good` — every admissible spelling of every
  legal move parses to that move; `C12_castle_text_legal_castling`, `C12_castle_text_rejected_unless_castling` —
  castling text is accepted only for a FIDE-legal castling move to that side;
* `C17_model_transfer` — the model half of C17: a symmetry of the rules carries over to generated moves,
  `Board::legal` and `Board::status` (instantiated with the mirror and the file flip in `Props/ComposeSym.lean`);
* `C05_model_step`, `C05_model_play` — along any play with the library's own moves every board holds a
  valid position, and castling rights, men and pawns only shrink.
-/
namespace Chess.Props
open Chess.Final

variable {T : Tables} {b : Board}

/-! ### C04 -/

/-- **C04.** On every well-formed board holding a valid position, `Board::status` is Checkmate / Stalemate /
Ongoing exactly when the FIDE specification says so. -/
theorem C04_status_exact (hT : TablesOK T) (hg : b.Good T) : C04_full T b := by
  refine C04_of_C01_C03 T b (genExact hT hg).2 ?_
  constructor
  · exact hg.inCheck_of_checkers_ne hT
  · intro hc h0
    have := (hg.checkers_zero_iff hT).mp h0
    rw [show inCheck b.abs b.abs.stm = inCheck b.abs b.stm from rfl, this] at hc
    cases hc

/-- along play -/
theorem C04_status_reachable (hT : TablesOK T) (h : PlayReachable T b) : C04_full T b :=
  C04_status_exact hT (h.good hT)

/-- two boards whose statuses are exact and whose positions have the same FIDE status report the same status -/
theorem status_eq_of_full {b₁ b₂ : Board} (h₁ : C04_full T b₁) (h₂ : C04_full T b₂)
    (h : Chess.status b₂.abs = Chess.status b₁.abs) : b₂.status T = b₁.status T := by
  obtain ⟨a1, a2, a3⟩ := h₁
  obtain ⟨c1, c2, c3⟩ := h₂
  cases hs : Chess.status b₁.abs with
  | checkmate => rw [a1.mpr hs, c1.mpr (h.trans hs)]
  | stalemate => rw [a2.mpr hs, c2.mpr (h.trans hs)]
  | ongoing => rw [a3.mpr hs, c3.mpr (h.trans hs)]

/-! ### C12 -/

/-- C01 in the form `Props/C12.lean` asks for, for the class of boards with consistent bitboards and hash and
from-scratch caches -/
theorem C01_statement_holds : C01_statement (fun T b => Core T b ∧ b.PinOK T) :=
  fun _ _ hT hW hV => genExact hT ⟨hW.1, hW.2, hV⟩

/-- **C12, completeness.** On every such board holding a valid position, every admissible spelling of every
FIDE-legal move is parsed back to exactly that move. -/
theorem C12_complete_full_holds : C12_complete_full (fun T b => Core T b ∧ b.PinOK T) :=
  C12_complete_full_of_C01 _ (fun _ _ h => h.1.toStruct) C01_statement_holds

theorem C12_complete_good (hT : TablesOK T) (hg : b.Good T) (m : Move) (s : List Char)
    (hs : SanSpec.IsSpelling b.abs m s) : San.fromSan T b s = .ok m :=
  C12_complete_full_holds T b hT ⟨hg.core, hg.pin⟩ hg.valid m s hs

/-- soundness on the rules: a move returned by the parser is FIDE-legal -/
theorem C12_sound_legal (hT : TablesOK T) (hg : b.Good T) (s : List Char) (m : Move)
    (h : San.fromSan T b s = .ok m) : legal b.abs m = true :=
  (movegen_mem_iff hT hg m).mp (C12_sound T b s m h)

/-- **C12, castling text denotes castling.** On a well-formed board holding a valid position, whenever `O-O` /
`O-O-O` (with an optional `+` / `#`) is accepted, the move returned is FIDE-legal and is a castling move of the
rules — the king moving two files — towards the g-file for `O-O` and towards the c-file for `O-O-O`. -/
theorem C12_castle_text_legal_castling (hT : TablesOK T) (hg : b.Good T) (s : List Char) (m : Move)
    (hc : San.castleText s = "O-O".toList ∨ San.castleText s = "O-O-O".toList)
    (h : San.fromSan T b s = .ok m) :
    legal b.abs m = true ∧ isCastle b.abs m = true ∧
    (m.dst.file > m.src.file ↔ San.castleText s = "O-O".toList) := by
  obtain ⟨hk, hm, he⟩ := C12_castle_text_denotes_castling T b s m hc h
  have ha := San.agree_of_struct hg.struct
  refine ⟨(C01_movegen_exact hT hg).2 m |>.mp hm, ?_⟩
  by_cases h6 : San.castleText s = "O-O".toList
  · simp only [if_pos h6] at he
    subst he
    exact ⟨San.isCastle_of_pieceOn_king ha _ false hk, fun _ => h6, fun _ => San.castle_file_short _⟩
  · simp only [if_neg h6] at he
    subst he
    exact ⟨San.isCastle_of_pieceOn_king ha _ true hk, fun hf => absurd hf (San.castle_file_long _),
      fun hf => absurd hf h6⟩

/-- **C12, "a text that denotes no legal move is rejected", for castling text.** On a well-formed board holding
a valid position, `O-O` / `O-O-O` (with an optional `+` / `#`) is rejected unless castling to that side is a
FIDE-legal move. -/
theorem C12_castle_text_rejected_unless_castling (hT : TablesOK T) (hg : b.Good T) (s : List Char)
    (hc : San.castleText s = "O-O".toList ∨ San.castleText s = "O-O-O".toList)
    (hn : ¬ ∃ m : Move, legal b.abs m = true ∧ isCastle b.abs m = true ∧
      (m.dst.file > m.src.file ↔ San.castleText s = "O-O".toList)) :
    San.fromSan T b s = .err :=
  San.fromSan_err_of_not_ok T b s fun m hm => hn ⟨m, C12_castle_text_legal_castling hT hg s m hc hm⟩

/-! ### C17, the model half -/

/-- transfer of a symmetry of the rules to the library: if `f` maps the legal moves of the position of `b` onto
those of the position of `b₂` and both positions have the same FIDE status, then the generated moves,
`Board::legal` and `Board::status` of the two boards correspond.  (`Props/ComposeSym.lean` instantiates `f`
with `Move.mirror` and `Move.flipFile`, using C17.) -/
theorem C17_model_transfer (hT : TablesOK T) {b₂ : Board} (hg : b.Good T) (hg₂ : b₂.Good T) (f : Move → Move)
    (hl : ∀ m : Move, legal b₂.abs (f m) = legal b.abs m) (hs : Chess.status b₂.abs = Chess.status b.abs) :
    (∀ m : Move, m ∈ b.legalMoves T ↔ f m ∈ b₂.legalMoves T) ∧
    (∀ m : Move, b₂.legal T (f m) = b.legal T m) ∧
    b₂.status T = b.status T := by
  refine ⟨fun m => ?_, fun m => ?_, ?_⟩
  · rw [movegen_mem_iff hT hg, movegen_mem_iff hT hg₂, hl]
  · rw [legal_query_eq hT hg, legal_query_eq hT hg₂, hl]
  · exact status_eq_of_full (C04_status_exact hT hg) (C04_status_exact hT hg₂) hs

/-! ### C05 -/

/-- **C05 on the library, one step.** A move of the generated list, made on a well-formed board holding a
valid position, gives a board holding a valid position again; no castling right comes back, and neither
side's number of men or of pawns grows. -/
theorem C05_model_step (hT : TablesOK T) (hg : b.Good T) {m : Move} (hm : m ∈ b.legalMoves T) {b' : Board}
    (h : b.makeMoveNew T m = some b') :
    Valid b'.abs = true ∧ b'.Good T ∧
    (∀ c, b'.abs.castleK c = true → b.abs.castleK c = true) ∧
    (∀ c, b'.abs.castleQ c = true → b.abs.castleQ c = true) ∧
    (∀ c, count b'.abs (·.2 == c) ≤ count b.abs (·.2 == c)) ∧
    (∀ c, count b'.abs (· == (.pawn, c)) ≤ count b.abs (· == (.pawn, c))) := by
  have hs := (PlaysTo.move b b' m .refl hm h : PlaysTo T b b').shrinks hT hg
  have hg' := (good_makeMove_generated hT hg hm h).1
  exact ⟨hg'.valid, hg', hs.castleK, hs.castleQ, hs.men, hs.pawns⟩

/-- **C05 on the library, along play.** From a well-formed board holding a valid position, after any sequence
of null moves and generated moves: the position is valid (one king each, at most 16 men and 8 pawns each,
rights backed by king and rook at home, no pawn on the first or last rank, the side that has just moved not in
check, a sound en-passant mark), and rights, men and pawns have only shrunk. -/
theorem C05_model_play (hT : TablesOK T) {b₀ : Board} (h0 : b₀.Good T) (h : PlaysTo T b₀ b) :
    Valid b.abs = true ∧ b.Good T ∧
    (∀ c, b.abs.castleK c = true → b₀.abs.castleK c = true) ∧
    (∀ c, b.abs.castleQ c = true → b₀.abs.castleQ c = true) ∧
    (∀ c, count b.abs (·.2 == c) ≤ count b₀.abs (·.2 == c)) ∧
    (∀ c, count b.abs (· == (.pawn, c)) ≤ count b₀.abs (· == (.pawn, c))) :=
  have hs := h.shrinks hT h0
  have hg := h.good hT h0
  ⟨hg.valid, hg, hs.castleK, hs.castleQ, hs.men, hs.pawns⟩

/-- every board reached by play holds a valid position -/
theorem C05_model_reachable_valid (hT : TablesOK T) (h : PlayReachable T b) : Valid b.abs = true :=
  (h.good hT).valid

/-! ### non-vacuity -/

section Examples
open GameExamples

/-- the initial position set up through `try_from`: `C04_status_exact` applies and the status is ongoing -/
example : ∃ b : Board, b.Good codeTables ∧ PlayReachable codeTables b ∧ C04_full codeTables b ∧
    Chess.status b.abs = .ongoing ∧ b.status codeTables = .ongoing := by
  obtain ⟨b, ht, habs, hg⟩ := C01_good_of_valid_pos codeTables_ok startPos_valid
  have hf := C04_status_exact codeTables_ok hg
  have hl := startPos_e4 habs
  have hs : Chess.status b.abs = .ongoing :=
    if_pos (List.any_eq_true.mpr ⟨_, San.legal_mem_candidates hl, hl⟩)
  exact ⟨b, hg, .start _ b ht hg.valid, hf, hs, hf.2.2.mpr hs⟩

/-- `C05_model_step` after 1. e4 -/
example : ∃ b b' : Board, b.Good codeTables ∧ (⟨12, 28, none⟩ : Move) ∈ b.legalMoves codeTables ∧
    b.makeMoveNew codeTables ⟨12, 28, none⟩ = some b' ∧ Valid b'.abs = true := by
  obtain ⟨b, ht, habs, hg⟩ := C01_good_of_valid_pos codeTables_ok startPos_valid
  have hm := (C01_movegen_exact codeTables_ok hg).2 _ |>.mpr (startPos_e4 habs)
  obtain ⟨b', e⟩ := makeMove_generated_some codeTables_ok hg hm
  exact ⟨b, b', hg, hm, e, (C05_model_step codeTables_ok hg hm e).1⟩

/-- `C12_castle_text_legal_castling`: White Ke1, Rh1, pawn e7, short castling right (`promoBoard` set up through
`try_from`): `O-O` is accepted, hence e1–g1 is a FIDE-legal castling move there -/
example : ∃ b : Board, b.Good codeTables ∧ San.fromSan codeTables b "O-O".toList = .ok ⟨4, 6, none⟩ ∧
    legal b.abs ⟨4, 6, none⟩ = true ∧ isCastle b.abs ⟨4, 6, none⟩ = true := by
  have h : ((Board.tryFrom codeTables promoBoard.abs.toBuilder).map fun b =>
      Valid b.abs && decide (San.fromSan codeTables b "O-O".toList = .ok ⟨4, 6, none⟩)) = some true := by
    decide +kernel
  cases ht : Board.tryFrom codeTables promoBoard.abs.toBuilder with
  | none => rw [ht] at h; cases h
  | some b =>
    rw [ht] at h
    simp only [Option.map_some, Option.some.injEq, Bool.and_eq_true, decide_eq_true_eq] at h
    have hg := C01_good_tryFrom ht h.1
    have := C12_castle_text_legal_castling codeTables_ok hg _ _ (by decide) h.2
    exact ⟨b, hg, h.2, this.1, this.2.1⟩

/-- `C12_castle_text_rejected_unless_castling` on `3k4/8/8/8/8/8/8/K3R3 w - - 0 1` (White Ka1, Re1; Black Kd8):
the board is well-formed and holds a valid position, the rook move e1–g1 is FIDE-legal and generated, no legal
move is a castling move, and `O-O` is rejected (the uncorrected parser returned the rook move) -/
example : ∃ b : Board, Board.tryFrom codeTables rookOnE1Bd = some b ∧ b.Good codeTables ∧
    legal b.abs ⟨4, 6, none⟩ = true ∧ (⟨4, 6, none⟩ : Move) ∈ b.legalMoves codeTables ∧
    (¬ ∃ m : Move, legal b.abs m = true ∧ isCastle b.abs m = true ∧
      (m.dst.file > m.src.file ↔ San.castleText "O-O".toList = "O-O".toList)) ∧
    San.fromSan codeTables b "O-O".toList = .err := by
  have h : ((Board.tryFrom codeTables rookOnE1Bd).map fun b =>
      Valid b.abs && legal b.abs ⟨4, 6, none⟩ &&
      (b.legalMoves codeTables).all (fun m => !isCastle b.abs m)) = some true := by
    decide +kernel
  cases ht : Board.tryFrom codeTables rookOnE1Bd with
  | none => rw [ht] at h; cases h
  | some b =>
    rw [ht] at h
    simp only [Option.map_some, Option.some.injEq, Bool.and_eq_true] at h
    obtain ⟨⟨hv, hl⟩, hall⟩ := h
    have hg := C01_good_tryFrom ht hv
    have hn : ¬ ∃ m : Move, legal b.abs m = true ∧ isCastle b.abs m = true ∧
        (m.dst.file > m.src.file ↔ San.castleText "O-O".toList = "O-O".toList) := by
      rintro ⟨m, hm, hc, _⟩
      have := List.all_eq_true.1 hall m ((C01_movegen_exact codeTables_ok hg).2 m |>.mpr hm)
      rw [hc] at this
      cases this
    exact ⟨b, rfl, hg, hl, (C01_movegen_exact codeTables_ok hg).2 _ |>.mpr hl, hn,
      C12_castle_text_rejected_unless_castling codeTables_ok hg _ (by decide) hn⟩

end Examples

end Chess.Props
