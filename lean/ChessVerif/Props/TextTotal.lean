import ChessVerif.Lemmas.TextTotal
/-!
# Totality of the FEN / SAN scanners and the characterisation of the SAN move loop

Needed by C07 (FEN) and C12 (SAN).  `parseBuilder` models `BoardBuilder::from_str`, `San.fromSan`
models `ChessMove::from_san`; `San.loop` is its `for m in &mut MoveGen::new_legal(board)` loop whose
result is `none` (an `Err` returned from inside the loop), `some none` (`found_move` still `None`
at the end, turned into `Err` by `ok_or`) or `some (some m)`.

Finding recorded here: the move loop is **not** "unique base match that passes the capture
filter".  The ambiguity test `found_move.is_some()` stands *before* the capture (`takes`) filter
and only sees moves that already passed that filter, so (a) base matches skipped by the capture
filter are invisible to the ambiguity test and (b) two base matches that are both skipped give
"not found" rather than "ambiguous".  The literal statements are refuted below
(`san_loop_unique_literal_false`, `san_loop_ambiguous_literal_false`); the exact behaviour is
`san_loop_iff` / `san_loop_notfound_iff`, and the intended reading is recovered under the
hypothesis that the capture filter does not distinguish the base matches (`san_takesSkip_uniform`
gives it outright except for a pawn capture written without ` e.p.` onto an empty square).
-/
namespace Chess.Props
open San

/-- `BoardBuilder::from_str` never panics -/
theorem parseBuilder_total (s : List Char) : parseBuilder s ≠ .panic := by
  unfold parseBuilder
  simp only
  split
  · split
    · nofun
    · split
      · nofun
      · split
        · rename_i h; exact absurd h (parseSquare_ne_panic _)
        · nofun
        · nofun
  · nofun

/-- `ChessMove::from_san` never panics -/
theorem fromSan_total (T : Tables) (b : Board) (s : List Char) : San.fromSan T b s ≠ .panic := by
  unfold San.fromSan
  simp only
  split
  · split <;> split <;> nofun
  · split
    · nofun
    · split <;> nofun

/-- the loop returns only elements of the list it scans (or the move it was started with) -/
theorem san_loop_mem (b : Board) (f : Fields) (l : List Move) (found : Option Move) (m : Move) :
    San.loop b f l found = some (some m) → m ∈ l ∨ found = some m := by
  induction l generalizing found with
  | nil => exact fun h => .inr (Option.some.inj h)
  | cons x xs ih =>
    intro h
    simp only [San.loop] at h
    split at h
    · exact (ih _ h).imp_left (List.mem_cons_of_mem _)
    · split at h
      · cases h
      · split at h
        · exact (ih _ h).imp_left (List.mem_cons_of_mem _)
        · exact .inl ((ih _ h).elim (List.mem_cons_of_mem _) fun h => by cases h; exact List.mem_cons_self)

/-- for non-castling text `from_san` is the scanner followed by the move loop -/
theorem fromSan_ok_iff (T : Tables) (b : Board) (s : List Char) (m : Move)
    (hc : ¬ (castleText s = "O-O".toList ∨ castleText s = "O-O-O".toList)) :
    San.fromSan T b s = .ok m ↔
      ∃ f, San.scan s = some f ∧ San.loop b f (b.legalMoves T) none = some (some m) := by
  unfold San.fromSan
  simp only [if_neg hc]
  split
  · rename_i h; simp [h]
  · rename_i f hf
    split
    · rename_i m' hl
      simp only [hf, Option.some.injEq, exists_eq_left', hl, Res.ok.injEq]
    · rename_i hl
      simp only [hf, Option.some.injEq, exists_eq_left', reduceCtorEq, false_iff]
      exact fun h => hl m h

/-- every move returned by `from_san` is one of the generated legal moves -/
theorem fromSan_sound (T : Tables) (b : Board) (s : List Char) (m : Move) :
    San.fromSan T b s = .ok m → m ∈ b.legalMoves T := by
  intro h
  by_cases hc : castleText s = "O-O".toList ∨ castleText s = "O-O-O".toList
  · exact ((San.fromSan_castle_ok_iff b T s m hc).1 h).2.1
  · obtain ⟨f, _, hl⟩ := (fromSan_ok_iff T b s m hc).1 h
    exact (san_loop_mem b f _ none m hl).resolve_right nofun

/-! ### the move loop -/

/-- exact behaviour: `m` is returned iff the base matches of `l`, in list order, are a (possibly
empty) run of moves skipped by the capture filter followed by `m`, which passes it, and no base
match follows `m` -/
theorem san_loop_iff (b : Board) (f : Fields) (l : List Move) (m : Move) :
    San.loop b f l none = some (some m) ↔
      ∃ pre, l.filter (San.baseMatch b f) = pre ++ [m] ∧
        (∀ x ∈ pre, San.takesSkip b f x = true) ∧ San.takesSkip b f m = false := by
  rw [San.loop_none_eq, ← San.dropWhile_eq_singleton]
  split <;> simp [*]

/-- "not found" (`found_move` is `None` after the loop) iff the capture filter skips every base match -/
theorem san_loop_notfound_iff (b : Board) (f : Fields) (l : List Move) :
    San.loop b f l none = some none ↔
      ∀ x ∈ l, San.baseMatch b f x = true → San.takesSkip b f x = true := by
  have : (l.filter (San.baseMatch b f)).dropWhile (San.takesSkip b f) = [] ↔
      ∀ x ∈ l, San.baseMatch b f x = true → San.takesSkip b f x = true := by
    rw [San.dropWhile_eq_nil]
    exact ⟨fun h x hx hb => h x (List.mem_filter.2 ⟨hx, hb⟩),
      fun h x hx => h x (List.mem_filter.1 hx).1 (List.mem_filter.1 hx).2⟩
  rw [San.loop_none_eq, ← this]
  split <;> simp [*]

/-- accepted ⇒ `m` is in `l`, is a base match, passes the capture filter, and every *other* base
match in `l` is skipped by the capture filter: `m` is the unique element of `l` satisfying
`baseMatch ∧ ¬ takesSkip` -/
theorem san_loop_unique (b : Board) (f : Fields) (l : List Move) (m : Move)
    (h : San.loop b f l none = some (some m)) :
    m ∈ l ∧ San.baseMatch b f m = true ∧ San.takesSkip b f m = false ∧
    (∀ x ∈ l, San.baseMatch b f x = true → San.takesSkip b f x = false → x = m) := by
  obtain ⟨pre, h1, h2, h3⟩ := (san_loop_iff b f l m).1 h
  have hm := List.mem_filter.1 (h1 ▸ List.mem_append_right pre List.mem_cons_self)
  refine ⟨hm.1, hm.2, h3, fun x hx hb hs => ?_⟩
  rcases List.mem_append.1 (h1 ▸ List.mem_filter.2 ⟨hx, hb⟩) with h | h
  · rw [h2 x h] at hs; cases hs
  · exact List.mem_singleton.1 h

/-- accepted, and the capture filter is uniform on the base matches of `l` ⇒ `m` is the only
base match in `l` (exactly one element satisfies `baseMatch`) and it passes the capture filter -/
theorem san_loop_unique_uniform (b : Board) (f : Fields) (l : List Move) (m : Move)
    (hu : ∀ x ∈ l, ∀ y ∈ l, San.baseMatch b f x = true → San.baseMatch b f y = true →
      San.takesSkip b f x = San.takesSkip b f y)
    (h : San.loop b f l none = some (some m)) :
    l.filter (San.baseMatch b f) = [m] ∧ l.countP (San.baseMatch b f) = 1 ∧
    (∀ x ∈ l, San.baseMatch b f x = true → x = m) ∧ San.takesSkip b f m = false := by
  obtain ⟨pre, h1, h2, h3⟩ := (san_loop_iff b f l m).1 h
  have hmem : ∀ x ∈ pre ++ [m], x ∈ l ∧ San.baseMatch b f x = true :=
    fun x hx => List.mem_filter.1 (h1 ▸ hx)
  have hf : l.filter (San.baseMatch b f) = [m] := by
    cases pre with
    | nil => exact h1
    | cons z zs =>
      -- a skipped base match in front of `m` would be told apart from `m` by the capture filter
      have hz := hmem z List.mem_cons_self
      have hm := hmem m (List.mem_append_right _ List.mem_cons_self)
      have := hu z hz.1 m hm.1 hz.2 hm.2
      rw [h2 z List.mem_cons_self, h3] at this
      cases this
  refine ⟨hf, by rw [List.countP_eq_length_filter, hf]; rfl, fun x hx hb => ?_, h3⟩
  exact List.mem_singleton.1 (hf ▸ List.mem_filter.2 ⟨hx, hb⟩)

/-- the uniformity hypothesis holds unless the text is a pawn capture without ` e.p.` whose
destination square is empty -/
theorem san_takesSkip_uniform (b : Board) (f : Fields)
    (hc : f.piece ≠ .pawn ∨ f.takes = false ∨ f.ep = true ∨ (b.pieceOn f.dest).isSome = true)
    (x y : Move) (hx : San.baseMatch b f x = true) (hy : San.baseMatch b f y = true) :
    San.takesSkip b f x = San.takesSkip b f y := by
  have dst : ∀ z, San.baseMatch b f z = true → z.dst = f.dest := fun z hz => by
    simp only [San.baseMatch, Bool.and_eq_true, beq_iff_eq] at hz; exact hz.1.2
  unfold San.takesSkip
  rw [dst x hx, dst y hy]
  rcases hc with h | h | h | h
  · simp [show (f.piece == Piece.pawn) = false by simpa using h]
  · simp [h]
  · simp [h]
  · simp [show (b.pieceOn f.dest).isNone = false by simpa using h]

/-- converse: exactly one element of a duplicate-free `l` is a base match and it passes the
capture filter ⇒ it is returned -/
theorem san_loop_complete (b : Board) (f : Fields) (l : List Move) (m : Move) (hnd : l.Nodup)
    (hm : m ∈ l) (hb : San.baseMatch b f m = true) (hs : San.takesSkip b f m = false)
    (hu : ∀ x ∈ l, San.baseMatch b f x = true → x = m) :
    San.loop b f l none = some (some m) :=
  (san_loop_iff b f l m).2
    ⟨[], San.filter_eq_singleton _ l m hnd hm hb hu, nofun, hs⟩

/-- two distinct base matches that both pass the capture filter ⇒ rejected as ambiguous -/
theorem san_loop_ambiguous (b : Board) (f : Fields) (l : List Move) (m₁ m₂ : Move)
    (h1 : m₁ ∈ l) (h2 : m₂ ∈ l) (hne : m₁ ≠ m₂)
    (hb1 : San.baseMatch b f m₁ = true) (hb2 : San.baseMatch b f m₂ = true)
    (hs1 : San.takesSkip b f m₁ = false) (hs2 : San.takesSkip b f m₂ = false) :
    San.loop b f l none = none := by
  rw [San.loop_none_eq]
  have g1 := San.mem_dropWhile_of_not (San.takesSkip b f) _ m₁ (List.mem_filter.2 ⟨h1, hb1⟩) hs1
  have g2 := San.mem_dropWhile_of_not (San.takesSkip b f) _ m₂ (List.mem_filter.2 ⟨h2, hb2⟩) hs2
  split
  · rename_i h; rw [h] at g1; cases g1
  · rename_i m h
    rw [h] at g1 g2
    exact absurd ((List.mem_singleton.1 g1).trans (List.mem_singleton.1 g2).symm) hne
  · rfl

/-- two distinct base matches, capture filter uniform ⇒ no move is returned (`Err` from inside
the loop when they pass the filter, "not found" when they are skipped) -/
theorem san_loop_ambiguous_uniform (b : Board) (f : Fields) (l : List Move) (m₁ m₂ : Move)
    (h1 : m₁ ∈ l) (h2 : m₂ ∈ l) (hne : m₁ ≠ m₂)
    (hb1 : San.baseMatch b f m₁ = true) (hb2 : San.baseMatch b f m₂ = true)
    (hu : ∀ x ∈ l, ∀ y ∈ l, San.baseMatch b f x = true → San.baseMatch b f y = true →
      San.takesSkip b f x = San.takesSkip b f y) :
    San.loop b f l none = none ∨ San.loop b f l none = some none := by
  cases hs : San.takesSkip b f m₁ with
  | false =>
    exact .inl (san_loop_ambiguous b f l m₁ m₂ h1 h2 hne hb1 hb2 hs (hu m₁ h1 m₂ h2 hb1 hb2 ▸ hs))
  | true =>
    exact .inr ((san_loop_notfound_iff b f l).2 fun x hx hb => hu x hx m₁ h1 hb hb1 ▸ hs)

/-! ### the literal statements are false -/

/-- "accepted ⇒ `m` is the only base match of a duplicate-free `l`" -/
def san_loop_unique_literal : Prop :=
  ∀ (b : Board) (f : Fields) (l : List Move) (m : Move), l.Nodup →
    San.loop b f l none = some (some m) →
    (∀ x ∈ l, San.baseMatch b f x = true → x = m) ∧ San.takesSkip b f m = false

/-- "two distinct base matches ⇒ `Err` from inside the loop" -/
def san_loop_ambiguous_literal : Prop :=
  ∀ (b : Board) (f : Fields) (l : List Move) (m₁ m₂ : Move), l.Nodup → m₁ ∈ l → m₂ ∈ l → m₁ ≠ m₂ →
    San.baseMatch b f m₁ = true → San.baseMatch b f m₂ = true → San.loop b f l none = none

/-- pawns on d5 and e5, text `xd6` (pawn, takes, no ` e.p.`), d6 empty -/
def cexBoard1 : Board :=
  { Board.blank with pawns := 0x1800000000#64, white := 0x1800000000#64, combined := 0x1800000000#64 }
def cexFields1 : Fields := ⟨.pawn, none, none, true, 43, none, false⟩
/-- knights on b3 and f3, pawn on d4, text `Nd4` (no `x`) -/
def cexBoard2 : Board :=
  { Board.blank with knights := 0x220000#64, pawns := 0x8000000#64, combined := 0x8220000#64 }
def cexFields2 : Fields := ⟨.knight, none, none, false, 27, none, false⟩

/-- the push d5-d6 is a base match skipped by the capture filter, so `found_move` is still `None`
when the second base match e5xd6 arrives, and that one is returned -/
theorem san_loop_unique_literal_false : ¬ san_loop_unique_literal := by
  intro h
  have h1 := (h cexBoard1 cexFields1 [⟨35, 43, none⟩, ⟨36, 43, none⟩] ⟨36, 43, none⟩
    (by decide) (by decide +kernel)).1 ⟨35, 43, none⟩ (by decide) (by decide +kernel)
  exact absurd h1 (by decide)

/-- both knight moves are base matches, both are skipped (capture without `x`): the loop ends with
`found_move = None` ("not found"), it does not return from inside -/
theorem san_loop_ambiguous_literal_false : ¬ san_loop_ambiguous_literal := by
  intro h
  have h1 := h cexBoard2 cexFields2 [⟨17, 27, none⟩, ⟨21, 27, none⟩] ⟨17, 27, none⟩ ⟨21, 27, none⟩
    (by decide) (by decide) (by decide) (by decide) (by decide +kernel) (by decide +kernel)
  have h2 : San.loop cexBoard2 cexFields2 [⟨17, 27, none⟩, ⟨21, 27, none⟩] none = some none := by
    decide +kernel
  rw [h2] at h1
  cases h1

/-! non-vacuity of `san_loop_unique` / `san_loop_complete` / `san_loop_ambiguous` on concrete values -/
set_option maxRecDepth 100000 in
example : San.loop cexBoard1 cexFields1 [⟨35, 43, none⟩, ⟨36, 43, none⟩] none
    = some (some ⟨36, 43, none⟩) := by decide +kernel
set_option maxRecDepth 100000 in
example : San.loop cexBoard2 { cexFields2 with takes := true } [⟨17, 27, none⟩, ⟨21, 27, none⟩] none
    = none := by decide +kernel
set_option maxRecDepth 100000 in
example : San.loop cexBoard2 { cexFields2 with takes := true, srcFile := some 1 }
    [⟨17, 27, none⟩, ⟨21, 27, none⟩] none = some (some ⟨17, 27, none⟩) := by decide +kernel
example : San.scan "Nbxd4+".toList = some ⟨.knight, some 1, none, true, 27, none, false⟩ := by
  decide +kernel

end Chess.Props
