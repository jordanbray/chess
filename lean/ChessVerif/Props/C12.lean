import ChessVerif.Lemmas.SanScan
import ChessVerif.Lemmas.GameExamples
import ChessVerif.Geom
/-!
# C12 — algebraic notation (`ChessMove::from_san`, model `San.fromSan`)

"For every legal move in every position, its algebraic notation as the library documents it (piece
letter, the minimal or any fuller correct disambiguation, 'x' on captures including en passant,
destination, promotion letter without '=', optional '+' or '#', optional ' e.p.', castling as O-O /
O-O-O) is parsed back to exactly that move.  A text that denotes no legal move, or that fits more
than one, is rejected; and no text whatsoever makes the parser panic or return a move that is not
legal."

* `C12_total`, `C12_sound`: every text, every board, every `Tables`.
* `C12_scan_spell_fields`, `C12_scan_spell`: the scanner inverts the documented writer
  (`SanSpec.spell`) on every admissible spelling — pure text, no chess.
* `C12_complete_nonCastle`, `C12_complete_castle_*`: completeness relative to the generated move
  list `b.legalMoves T`; `C12_complete_of_C01`: completeness against `SanSpec.IsSpelling` and FIDE
  legality for every board on which the generator is exact (the conclusion of C01).
* `C12_rejects*`: well-formed text matched by no generated move, or by more than one, is an error.
* `C12_castle_text_denotes_castling`: accepted castling text returns the generated move of the king
  standing on its home square, two files to the side (never another man's move e1→g1); FIDE reading in
  `Props/Compose.lean` (`C12_castle_text_legal_castling`, `C12_castle_text_rejected_unless_castling`).

"Legal" in `C12_sound` / `C12_complete_nonCastle` / `C12_rejects*` is "generated by
`MoveGen::new_legal`" (`b.legalMoves T`); C01 identifies that with FIDE legality.
-/
namespace Chess.Props
open Chess San SanSpec

/-! ## no panic, only generated moves -/

/-- no text whatsoever makes the parser panic -/
theorem C12_total (T : Tables) (b : Board) (s : List Char) : San.fromSan T b s ≠ .panic :=
  fromSan_total T b s

/-- every move returned is one of the generated legal moves -/
theorem C12_sound (T : Tables) (b : Board) (s : List Char) (m : Move) :
    San.fromSan T b s = .ok m → m ∈ b.legalMoves T := fromSan_sound T b s m

/-! ## the scanner inverts the writer -/

/-- for every piece kind, disambiguation, capture flag, destination, promotion (none/Q/R/B/N),
suffix and ` e.p.` flag the scanner recovers exactly the components the text was assembled from;
source file / rank are `some` exactly for the parts the disambiguation spells -/
theorem C12_scan_spell_fields (pc : Piece) (d : Disamb) (src : Sq) (cap : Bool) (dest : Sq)
    (promo : Option Piece) (sfx : Suffix) (epMark : Bool)
    (hp : promo ∈ [none, some .queen, some .rook, some .bishop, some .knight]) :
    San.scan (San.spellText pc d src cap dest promo sfx epMark) =
      some ⟨pc, San.disambFile d src, San.disambRank d src, cap, dest, promo, epMark⟩ :=
  San.scan_spell_fields pc d src cap dest promo sfx epMark hp

/-- the same for the text of a move in a position -/
theorem C12_scan_spell (p : Pos) (m : Move) (d : Disamb) (sfx : Suffix) (epMark : Bool)
    (pc : Piece) (col : Color) (hb : p.board m.src = some (pc, col))
    (hp : m.promo ∈ [none, some .queen, some .rook, some .bishop, some .knight]) :
    San.scan (spell p m d sfx epMark) =
      some { piece := pc, srcFile := San.disambFile d m.src, srcRank := San.disambRank d m.src,
             takes := isCapture p m, dest := m.dst, promo := m.promo, ep := epMark } :=
  San.scan_spell p m d sfx epMark pc col hb hp

/-- `spellText` is literally the text `SanSpec.spell` writes -/
theorem C12_spell_eq (p : Pos) (m : Move) (d : Disamb) (sfx : Suffix) (epMark : Bool)
    (pc : Piece) (col : Color) (hb : p.board m.src = some (pc, col)) :
    spell p m d sfx epMark = San.spellText pc d m.src (isCapture p m) m.dst m.promo sfx epMark :=
  San.spell_eq_spellText p m d sfx epMark pc col hb

/-! ## castling text -/

theorem C12_castleText_short (sfx : Suffix) :
    San.castleText ("O-O".toList ++ suffixText sfx) = "O-O".toList := San.castleText_short sfx
theorem C12_castleText_long (sfx : Suffix) :
    San.castleText ("O-O-O".toList ++ suffixText sfx) = "O-O-O".toList := San.castleText_long sfx

/-- a non-castling spelling is never taken for castling text -/
theorem C12_spell_not_castle (p : Pos) (m : Move) (d : Disamb) (sfx : Suffix) (epMark : Bool)
    (pc : Piece) (col : Color) (hb : p.board m.src = some (pc, col)) :
    ¬ (San.castleText (spell p m d sfx epMark) = "O-O".toList ∨
       San.castleText (spell p m d sfx epMark) = "O-O-O".toList) :=
  San.castleText_spell p m d sfx epMark pc col hb

/-! ## completeness relative to the generated move list -/

/-- every board satisfying the structural invariant answers its per-square queries as its
abstraction does -/
theorem C12_agree_of_struct {b : Board} (h : Struct b) : San.Agree b := San.agree_of_struct h

/-- Non-castling spellings.  `m` is a generated move of a board whose move list has no duplicates
and whose per-square queries agree with its abstraction; a man stands on `m.src`; the promotion is
none/Q/R/B/N; the disambiguation `d` singles `m` out among the generated moves.  Then every
spelling of `m` with that disambiguation (any suffix, with or without ` e.p.`) parses to `m`.
(That the capture mark `x` written by the speller passes the parser's capture filter is proved, not
assumed.) -/
theorem C12_complete_nonCastle (T : Tables) (b : Board) (m : Move) (d : Disamb) (sfx : Suffix)
    (epMark : Bool) (pc : Piece) (col : Color)
    (hnd : (b.legalMoves T).Nodup) (hm : m ∈ b.legalMoves T)
    (ha : ∀ s, b.pieceOn s = (b.abs.board s).map (·.1))
    (hb : b.abs.board m.src = some (pc, col))
    (hp : m.promo ∈ [none, some .queen, some .rook, some .bishop, some .knight])
    (hu : ∀ m' ∈ b.legalMoves T, agrees b.abs d m m' = true → m' = m) :
    San.fromSan T b (spell b.abs m d sfx epMark) = .ok m :=
  San.fromSan_spell T b m d sfx epMark pc col hnd hm ha hb hp hu

/-- `O-O` (any suffix): the e-file home square of the side to move holds the king and the move of that
king to the g-file is generated -/
theorem C12_complete_castle_short (T : Tables) (b : Board) (sfx : Suffix)
    (hk : b.pieceOn (mkSq b.stm.backrank 4) = some .king)
    (hm : (⟨mkSq b.stm.backrank 4, mkSq b.stm.backrank 6, none⟩ : Move) ∈ b.legalMoves T) :
    San.fromSan T b ("O-O".toList ++ suffixText sfx) =
      .ok ⟨mkSq b.stm.backrank 4, mkSq b.stm.backrank 6, none⟩ :=
  (San.fromSan_castle_ok_iff b T _ _ (.inl (San.castleText_short sfx))).2
    ⟨hk, hm, by rw [San.castleText_short, if_pos rfl]⟩

/-- `O-O-O` likewise, to the c-file -/
theorem C12_complete_castle_long (T : Tables) (b : Board) (sfx : Suffix)
    (hk : b.pieceOn (mkSq b.stm.backrank 4) = some .king)
    (hm : (⟨mkSq b.stm.backrank 4, mkSq b.stm.backrank 2, none⟩ : Move) ∈ b.legalMoves T) :
    San.fromSan T b ("O-O-O".toList ++ suffixText sfx) =
      .ok ⟨mkSq b.stm.backrank 4, mkSq b.stm.backrank 2, none⟩ :=
  (San.fromSan_castle_ok_iff b T _ _ (.inr (San.castleText_long sfx))).2
    ⟨hk, hm, by rw [San.castleText_long, if_neg (by decide)]⟩

/-- **Castling text denotes castling only.**  Whenever `O-O` / `O-O-O` (with an optional `+` / `#`) is
accepted, the move returned is the generated move of the *king* standing on the e-file home square of
the side to move, two files towards the g- resp. c-file.  (Before the correction of
`ChessMove::from_san` any generated move e1→g1, e.g. of a rook, was returned.)  Every text, every
board, every `Tables`. -/
theorem C12_castle_text_denotes_castling (T : Tables) (b : Board) (s : List Char) (m : Move)
    (hc : San.castleText s = "O-O".toList ∨ San.castleText s = "O-O-O".toList)
    (h : San.fromSan T b s = .ok m) :
    b.pieceOn m.src = some .king ∧ m ∈ b.legalMoves T ∧
    m = ⟨mkSq b.stm.backrank 4,
         mkSq b.stm.backrank (if San.castleText s = "O-O".toList then 6 else 2), none⟩ :=
  (San.fromSan_castle_ok_iff b T s m hc).1 h

/-! ## rejection -/

/-- Well-formed non-castling text (`scan s = some f`): if the number of generated moves that fit
the fields (`hit` = `baseMatch` and not skipped by the capture filter) is not exactly one, the text
is rejected.  No hypothesis on the board or on the move list. -/
theorem C12_rejects (T : Tables) (b : Board) (s : List Char) (f : San.Fields)
    (hc : ¬ (San.castleText s = "O-O".toList ∨ San.castleText s = "O-O-O".toList))
    (hs : San.scan s = some f) (hn : (b.legalMoves T).countP (San.hit b f) ≠ 1) :
    San.fromSan T b s = .err :=
  San.fromSan_err_of_loop T b s f hc hs fun m h => hn (San.loop_ok_count b f _ m h)

/-- no generated move fits -/
theorem C12_rejects_none (T : Tables) (b : Board) (s : List Char) (f : San.Fields)
    (hc : ¬ (San.castleText s = "O-O".toList ∨ San.castleText s = "O-O-O".toList))
    (hs : San.scan s = some f)
    (hn : ∀ m ∈ b.legalMoves T, San.baseMatch b f m = true → San.takesSkip b f m = true) :
    San.fromSan T b s = .err :=
  San.fromSan_err_of_loop T b s f hc hs fun m h => by
    rw [(san_loop_notfound_iff b f _).2 hn] at h; cases h

/-- two different generated moves fit (whenever the capture filter cannot tell base matches apart,
i.e. always except for a pawn capture written without ` e.p.` onto an empty square) -/
theorem C12_rejects_ambiguous (T : Tables) (b : Board) (s : List Char) (f : San.Fields)
    (hc : ¬ (San.castleText s = "O-O".toList ∨ San.castleText s = "O-O-O".toList))
    (hs : San.scan s = some f)
    (hu : f.piece ≠ .pawn ∨ f.takes = false ∨ f.ep = true ∨ (b.pieceOn f.dest).isSome = true)
    (m₁ m₂ : Move) (h1 : m₁ ∈ b.legalMoves T) (h2 : m₂ ∈ b.legalMoves T) (hne : m₁ ≠ m₂)
    (hb1 : San.baseMatch b f m₁ = true) (hb2 : San.baseMatch b f m₂ = true) :
    San.fromSan T b s = .err :=
  San.fromSan_err_of_loop T b s f hc hs fun m h => by
    rcases san_loop_ambiguous_uniform b f _ m₁ m₂ h1 h2 hne hb1 hb2
      (fun x _ y _ hx hy => san_takesSkip_uniform b f hu x y hx hy) with h' | h' <;>
    · rw [h'] at h; cases h

/-- text the scanner cannot read -/
theorem C12_rejects_malformed (T : Tables) (b : Board) (s : List Char)
    (hc : ¬ (San.castleText s = "O-O".toList ∨ San.castleText s = "O-O-O".toList))
    (hs : San.scan s = none) : San.fromSan T b s = .err :=
  San.fromSan_err_of_not_ok T b s fun m hm => by
    obtain ⟨f, hf, _⟩ := (fromSan_ok_iff T b s m hc).1 hm
    cases hs.symm.trans hf

/-- castling text when that castling move is not generated, or when the e-file home square of the side
to move does not hold the king -/
theorem C12_rejects_castle (T : Tables) (b : Board) (s : List Char)
    (hc : San.castleText s = "O-O".toList ∨ San.castleText s = "O-O-O".toList)
    (hn : (⟨mkSq b.stm.backrank 4,
            mkSq b.stm.backrank (if San.castleText s = "O-O".toList then 6 else 2), none⟩ : Move)
        ∉ b.legalMoves T ∨
      b.pieceOn (mkSq b.stm.backrank 4) ≠ some .king) :
    San.fromSan T b s = .err :=
  San.fromSan_err_of_not_ok T b s fun m hm => by
    obtain ⟨hk, hmem, he⟩ := (San.fromSan_castle_ok_iff b T s m hc).1 hm
    subst he
    exact hn.elim (· hmem) (· hk)

/-! ## completeness against the documented grammar and FIDE legality -/

/-- Every admissible spelling (`SanSpec.IsSpelling`: castling or not, any disambiguation that is
unambiguous among the FIDE-legal moves, `x` iff capture, any suffix, ` e.p.` only on en-passant
captures) of a FIDE-legal move parses to that move — on every board whose generated move list is
the list of FIDE-legal moves without duplicates (C01's conclusion, `San.GenExact`) and whose
per-square queries agree with its abstraction (true under `Struct b`). -/
theorem C12_complete_of_C01 (T : Tables) (b : Board)
    (ha : ∀ s, b.pieceOn s = (b.abs.board s).map (·.1))
    (h01 : (b.legalMoves T).Nodup ∧
      ∀ m, m ∈ b.legalMoves T ↔ (Chess.legal b.abs m = true ∧ m ∈ Chess.candidates b.abs))
    (m : Move) (s : List Char) (hs : IsSpelling b.abs m s) :
    San.fromSan T b s = .ok m := by
  obtain ⟨hnd, hex⟩ := h01
  obtain ⟨hleg, hcase⟩ := hs
  have hm : m ∈ b.legalMoves T := (hex m).2 ⟨hleg, legal_mem_candidates hleg⟩
  rcases hcase with ⟨hc, sfx, rfl⟩ | ⟨hc, d, sfx, ep, hun, _, _, rfl⟩
  · have hk := pieceOn_king_of_isCastle ha hc
    have hshape := castle_shape hleg hc
    by_cases hgt : m.dst.file > m.src.file
    · rw [if_pos hgt] at hshape ⊢
      refine (fromSan_castle_ok_iff b T _ m (.inl (castleText_short sfx))).2 ⟨hk, hm, ?_⟩
      rw [castleText_short, if_pos rfl]; exact hshape
    · rw [if_neg hgt] at hshape ⊢
      refine (fromSan_castle_ok_iff b T _ m (.inr (castleText_long sfx))).2 ⟨hk, hm, ?_⟩
      rw [castleText_long, if_neg (by decide)]; exact hshape
  · obtain ⟨pc, hb⟩ := board_of_legal hleg
    refine fromSan_spell T b m d sfx ep pc _ hnd hm ha hb (promo_of_legal hleg) fun m' hm' hag => ?_
    have hl' := ((hex m').1 hm').1
    unfold unambiguous at hun
    have := List.all_eq_true.1 hun m' ((Plausible.mem_legalMoves_iff _ m').2 hl')
    simpa [hag] using this

/-- C01 for a class `WF` of boards -/
def C01_statement (WF : Tables → Board → Prop) : Prop :=
  ∀ T b, TablesOK T → WF T b → Valid b.abs = true → San.GenExact T b

/-- the property's completeness clause, for the boards of the class `WF` -/
def C12_complete_full (WF : Tables → Board → Prop) : Prop :=
  ∀ T b, TablesOK T → WF T b → Valid b.abs = true →
    ∀ m s, IsSpelling b.abs m s → San.fromSan T b s = .ok m

/-- `C12_complete_full` follows from C01 (which `Props/Compose.lean` supplies: `C12_complete_full_holds`) -/
theorem C12_complete_full_of_C01 (WF : Tables → Board → Prop) (hwf : ∀ T b, WF T b → Struct b)
    (h01 : C01_statement WF) : C12_complete_full WF := by
  intro T b hT hW hV m s hs
  exact C12_complete_of_C01 T b (San.agree_of_struct (hwf T b hW)) (h01 T b hT hW hV) m s hs

/-! ## non-vacuity -/

example : San.scan "Nbd7".toList = some ⟨.knight, some 1, none, false, 51, none, false⟩ := by
  decide +kernel
example : San.scan "exd6 e.p.".toList = some ⟨.pawn, some 4, none, true, 43, none, true⟩ := by
  decide +kernel
example : San.scan "e8Q+".toList = some ⟨.pawn, none, none, false, 60, some .queen, false⟩ := by
  decide +kernel
example : San.scan "R1a3".toList = some ⟨.rook, none, some 0, false, 16, none, false⟩ := by
  decide +kernel
example : San.scan "Qh4xe1#".toList = some ⟨.queen, some 7, some 3, true, 4, none, false⟩ := by
  decide +kernel
example : San.castleText "O-O-O#".toList = "O-O-O".toList := by decide
/-- `C12_scan_spell_fields` produces exactly these texts -/
example : San.spellText .knight .file 57 false 51 none .none false = "Nbd7".toList := by decide
example : San.spellText .pawn .file 36 true 43 none .none true = "exd6 e.p.".toList := by decide
example : San.spellText .pawn .none 52 false 60 (some .queen) .check false = "e8Q+".toList := by decide

/-! ### concrete boards (over the tables of the code) on which the hypotheses of the theorems hold -/
open GameExamples

/-- the initial position after d2-d4 and Ng1-f3 with White to move again: knights on b1 and f3 both
reach d2 -/
def twoKnights : Board :=
  { startBoard with pawns := 0x00FF00000800F700#64, knights := 0x4200000000200002#64,
                    white := 0x0820F7BF#64, combined := 0xFFFF00000820F7BF#64 }

theorem twoKnights_facts :
    (twoKnights.legalMoves codeTables).Nodup ∧
    (⟨1, 11, none⟩ : Move) ∈ twoKnights.legalMoves codeTables ∧
    (⟨21, 11, none⟩ : Move) ∈ twoKnights.legalMoves codeTables ∧
    (∀ m' ∈ twoKnights.legalMoves codeTables, agrees twoKnights.abs .file ⟨1, 11, none⟩ m' = true → m' = ⟨1, 11, none⟩) ∧
    (twoKnights.legalMoves codeTables).countP (San.hit twoKnights ⟨.knight, none, none, false, 11, none, false⟩) = 2 := by
  decide +kernel

theorem twoKnights_agree : ∀ s, twoKnights.pieceOn s = (twoKnights.abs.board s).map (·.1) := by
  decide +kernel

/-- `C12_complete_nonCastle`: `Nbd2` -/
example : San.fromSan codeTables twoKnights "Nbd2".toList = .ok ⟨1, 11, none⟩ :=
  C12_complete_nonCastle codeTables twoKnights ⟨1, 11, none⟩ .file .none false .knight .white
    twoKnights_facts.1 twoKnights_facts.2.1 twoKnights_agree (by decide +kernel) (by decide)
    twoKnights_facts.2.2.2.1

/-- `C12_rejects` / `C12_rejects_ambiguous`: `Nd2` fits two moves -/
example : San.fromSan codeTables twoKnights "Nd2".toList = .err :=
  C12_rejects codeTables twoKnights _ ⟨.knight, none, none, false, 11, none, false⟩ (by decide)
    (by decide +kernel) (by rw [twoKnights_facts.2.2.2.2]; decide)
example : San.fromSan codeTables twoKnights "Nd2".toList = .err :=
  C12_rejects_ambiguous codeTables twoKnights _ ⟨.knight, none, none, false, 11, none, false⟩ (by decide)
    (by decide +kernel) (Or.inl (by decide)) ⟨1, 11, none⟩ ⟨21, 11, none⟩ twoKnights_facts.2.1
    twoKnights_facts.2.2.1 (by decide) (by decide +kernel) (by decide +kernel)


/-- White: Ke1, Rh1, pawn e7, may castle short; Black: Ka8; White to move -/
def promoBoard : Board :=
  { Board.blank with pawns := 0x0010000000000000#64, rooks := 0x80#64, kings := 0x0100000000000010#64,
                     white := 0x0010000000000090#64, black := 0x0100000000000000#64,
                     combined := 0x0110000000000090#64, stm := .white, wcr := ⟨true, false⟩ }

/-- C01's conclusion checked on this position (kernel evaluation of both move lists) -/
theorem promoBoard_genExact_check :
    (promoBoard.legalMoves codeTables).Nodup ∧
    (Chess.legalMoves promoBoard.abs).all (fun m => (promoBoard.legalMoves codeTables).contains m) = true ∧
    (promoBoard.legalMoves codeTables).all (fun m => Chess.legal promoBoard.abs m) = true ∧
    (promoBoard.legalMoves codeTables).length = 19 := by
  decide +kernel

theorem promoBoard_genExact : San.GenExact codeTables promoBoard := by
  obtain ⟨h1, h2, h3, _⟩ := promoBoard_genExact_check
  refine ⟨h1, fun m => ⟨fun hm => ?_, fun hm => ?_⟩⟩
  · have := List.all_eq_true.1 h3 m hm
    exact ⟨this, San.legal_mem_candidates this⟩
  · have := List.all_eq_true.1 h2 m (List.mem_filter.2 ⟨hm.2, hm.1⟩)
    exact List.contains_iff_mem.1 this

theorem promoBoard_agree : ∀ s, promoBoard.pieceOn s = (promoBoard.abs.board s).map (·.1) := by
  decide +kernel

/-- `e8Q+` is an admissible spelling of e7-e8=Q -/
theorem e8Q_isSpelling : IsSpelling promoBoard.abs ⟨52, 60, some .queen⟩ "e8Q+".toList := by
  refine ⟨by decide +kernel, Or.inr ⟨by decide +kernel, .none, .check, false,
    San.unambiguous_of_sources (by decide +kernel), by decide, ?_, by decide +kernel⟩⟩
  intro h
  exact absurd h.2 (by decide +kernel)

/-- `O-O#` is an admissible spelling of castling short (the grammar does not judge the suffix) -/
theorem OO_isSpelling : IsSpelling promoBoard.abs ⟨4, 6, none⟩ "O-O#".toList :=
  ⟨by decide +kernel, Or.inl ⟨by decide +kernel, .mate, by decide +kernel⟩⟩

/-- the hypotheses of `C12_complete_of_C01` are satisfiable, for a promotion and for castling -/
example : San.fromSan codeTables promoBoard "e8Q+".toList = .ok ⟨52, 60, some .queen⟩ :=
  C12_complete_of_C01 codeTables promoBoard promoBoard_agree promoBoard_genExact _ _ e8Q_isSpelling
example : San.fromSan codeTables promoBoard "O-O#".toList = .ok ⟨4, 6, none⟩ :=
  C12_complete_of_C01 codeTables promoBoard promoBoard_agree promoBoard_genExact _ _ OO_isSpelling
/-- `C12_complete_castle_short`, `C12_rejects_castle` -/
example : San.fromSan codeTables promoBoard "O-O".toList = .ok ⟨4, 6, none⟩ :=
  C12_complete_castle_short codeTables promoBoard .none (by decide +kernel) (by decide +kernel)
example : San.fromSan codeTables promoBoard "O-O-O".toList = .err :=
  C12_rejects_castle codeTables promoBoard _ (by decide) (Or.inl (by decide +kernel))
/-- `C12_castle_text_denotes_castling` on an accepted text -/
example : promoBoard.pieceOn 4 = some .king ∧ (⟨4, 6, none⟩ : Move) ∈ promoBoard.legalMoves codeTables :=
  have h := C12_castle_text_denotes_castling codeTables promoBoard "O-O#".toList ⟨4, 6, none⟩ (by decide)
    (C12_complete_of_C01 codeTables promoBoard promoBoard_agree promoBoard_genExact _ _ OO_isSpelling)
  ⟨h.1, h.2.1⟩
/-- `C12_rejects_none`: no rook can go to a3 -/
example : San.fromSan codeTables promoBoard "Ra3".toList = .err :=
  C12_rejects_none codeTables promoBoard _ ⟨.rook, none, none, false, 16, none, false⟩ (by decide)
    (by decide +kernel) (by decide +kernel)
/-- `C12_rejects_malformed` -/
example : San.fromSan codeTables promoBoard "e9".toList = .err :=
  C12_rejects_malformed codeTables promoBoard _ (by decide) (by decide +kernel)


/-- White: Ke1, pawn e5; Black: Ke8, pawn d5 that has just made its double step; White to move -/
def epBoard : Board :=
  { Board.blank with pawns := 0x1800000000#64, kings := 0x1000000000000010#64,
                     white := 0x1000000010#64, black := 0x1000000800000000#64,
                     combined := 0x1000001800000010#64, stm := .white, ep := some 35 }

theorem epBoard_facts :
    (epBoard.legalMoves codeTables).Nodup ∧
    (⟨36, 43, none⟩ : Move) ∈ epBoard.legalMoves codeTables ∧
    (∀ m' ∈ epBoard.legalMoves codeTables, agrees epBoard.abs .file ⟨36, 43, none⟩ m' = true → m' = ⟨36, 43, none⟩) ∧
    isCapture epBoard.abs ⟨36, 43, none⟩ = true ∧ epBoard.pieceOn 43 = none := by
  decide +kernel

theorem epBoard_agree : ∀ s, epBoard.pieceOn s = (epBoard.abs.board s).map (·.1) := by
  decide +kernel

/-- `C12_complete_nonCastle` on an en-passant capture, with and without the ` e.p.` mark -/
example : San.fromSan codeTables epBoard "exd6 e.p.".toList = .ok ⟨36, 43, none⟩ :=
  C12_complete_nonCastle codeTables epBoard ⟨36, 43, none⟩ .file .none true .pawn .white
    epBoard_facts.1 epBoard_facts.2.1 epBoard_agree (by decide +kernel) (by decide) epBoard_facts.2.2.1
example : San.fromSan codeTables epBoard "exd6".toList = .ok ⟨36, 43, none⟩ :=
  C12_complete_nonCastle codeTables epBoard ⟨36, 43, none⟩ .file .none false .pawn .white
    epBoard_facts.1 epBoard_facts.2.1 epBoard_agree (by decide +kernel) (by decide) epBoard_facts.2.2.1


/-- `3k4/8/8/8/8/8/8/K3R3 w - - 0 1`: White Ka1, Re1; Black Kd8; White to move, no castling rights.  The
rook move e1-g1 is legal; before the correction `O-O` returned it. -/
def rookOnE1Bd : Builder where
  pieces s := match s.val with
    | 0 => some (.king, .white) | 4 => some (.rook, .white) | 59 => some (.king, .black)
    | _ => none
  stm := .white
  wcr := .noRights
  bcr := .noRights
  epFile := none

theorem rookOnE1_facts : ((Board.tryFrom codeTables rookOnE1Bd).map fun b =>
    decide (San.fromSan codeTables b "O-O".toList = .err) &&
    decide (San.fromSan codeTables b "O-O+".toList = .err) &&
    (b.legalMoves codeTables).contains ⟨4, 6, none⟩ &&
    (b.pieceOn 4 == some .rook) && (b.stm == .white) &&
    decide (San.fromSan codeTables b "Rg1".toList = .ok ⟨4, 6, none⟩)) = some true := by
  decide +kernel

/-- the board `try_from` builds for that position rejects `O-O` although the move e1→g1 is in the generated
list (it is the rook's, spelled `Rg1`); `C12_rejects_castle` applies through its second alternative, and
`C12_castle_text_denotes_castling` shows that no acceptance is possible -/
example : ∃ b, Board.tryFrom codeTables rookOnE1Bd = some b ∧
    San.fromSan codeTables b "O-O".toList = .err ∧
    (⟨4, 6, none⟩ : Move) ∈ b.legalMoves codeTables ∧
    San.fromSan codeTables b "Rg1".toList = .ok ⟨4, 6, none⟩ ∧
    (∀ m, San.fromSan codeTables b "O-O".toList ≠ .ok m) := by
  have h := rookOnE1_facts
  cases ht : Board.tryFrom codeTables rookOnE1Bd with
  | none => rw [ht] at h; cases h
  | some b =>
    rw [ht] at h
    simp only [Option.map_some, Option.some.injEq, Bool.and_eq_true, beq_iff_eq, decide_eq_true_eq] at h
    obtain ⟨⟨⟨⟨⟨h1, _⟩, h3⟩, h4⟩, h5⟩, h6⟩ := h
    have hk : b.pieceOn (mkSq b.stm.backrank 4) ≠ some .king := by
      rw [h5, show mkSq Color.white.backrank 4 = 4 from by decide, h4]; decide
    refine ⟨b, rfl, ?_, List.contains_iff_mem.1 h3, h6, fun m hm => ?_⟩
    · exact C12_rejects_castle codeTables b _ (by decide) (Or.inr hk)
    · have hd := C12_castle_text_denotes_castling codeTables b _ m (by decide) hm
      rw [hd.2.2] at hd
      exact hk hd.1

end Chess.Props
