import ChessVerif.Proofs.KeyDeps.All
import ChessVerif.Lemmas.MoveSpec
/-!
# C09 (strengthening) — no three Zobrist keys are linearly dependent

On the 793 keys generated by the current build of /repo (re-checked by the kernel whenever they
change, `ChessVerif/Proofs/KeyDeps/Chunks`): for list positions `i ≠ j`, `k_i ^^^ k_j` is not a
key.  With `C09_keys_distinct` / `C09_keys_nonzero` this says that every set of one, two or three
distinct keys has a non-zero xor, so two positions whose sets of hash keys differ in at most three
keys have different hashes.  Chess-level instance: a quiet move of a knight, bishop, rook or queen
that leaves castling rights alone (two piece keys and the side key change) always changes the hash.
-/
namespace Chess.Props
open KeyDeps

/-- the keys at two different positions of the key table never xor to a key -/
theorem C09_no_three_key_dependency_idx (i j : Nat) (hi : i < allKeys.length) (hj : j < allKeys.length)
    (hij : i ≠ j) : allKeys[i] ^^^ allKeys[j] ∉ allKeys :=
  allKeys_getElem_xor i j hi hj hij

/-- no key is the xor of two different keys -/
theorem C09_no_three_key_dependency (a b c : BB) (ha : a ∈ allKeys) (hb : b ∈ allKeys) (hc : c ∈ allKeys)
    (hab : a ≠ b) : a ^^^ b ≠ c := by
  obtain ⟨i, hi, rfl⟩ := List.getElem_of_mem ha
  obtain ⟨j, hj, rfl⟩ := List.getElem_of_mem hb
  intro h
  refine allKeys_getElem_xor i j hi hj ?_ (h ▸ hc)
  intro hij; subst hij; exact hab rfl

/-- three keys, the first two different, never xor to zero -/
theorem C09_three_keys_xor_ne_zero (a b c : BB) (ha : a ∈ allKeys) (hb : b ∈ allKeys) (hc : c ∈ allKeys)
    (hab : a ≠ b) : a ^^^ b ^^^ c ≠ 0#64 :=
  fun h => C09_no_three_key_dependency a b c ha hb hc hab (xor_eq_zero_iff.mp h)

theorem allKeys_nodup : allKeys.Nodup := by
  have aux : ∀ l : List BB, pairwiseNe l = true → l.Nodup := by
    intro l
    induction l with
    | nil => intro _; exact List.nodup_nil
    | cons x xs ih =>
      intro h
      simp only [pairwiseNe, Bool.and_eq_true, List.all_eq_true, bne_iff_ne] at h
      exact List.nodup_cons.mpr ⟨fun hx => h.1 x hx rfl, ih h.2⟩
  exact aux _ C09_keys_distinct

/-- every non-empty duplicate-free selection of at most three keys has a non-zero xor: hash-key sets
that differ in one, two or three keys give different hashes -/
theorem C09_up_to_three_keys_independent (l : List BB) (hsub : ∀ k ∈ l, k ∈ allKeys) (hnd : l.Nodup)
    (hpos : 0 < l.length) (hle : l.length ≤ 3) : l.foldl (· ^^^ ·) 0#64 ≠ 0#64 := by
  have hnz : ∀ k ∈ allKeys, k ≠ 0#64 := by
    intro k hk
    have := List.all_eq_true.mp C09_keys_nonzero k hk
    simpa using this
  match l, hpos, hle with
  | [], h, _ => simp at h
  | [a], _, _ =>
    simp only [List.foldl_cons, List.foldl_nil, BitVec.zero_xor]
    exact hnz a (hsub a (by simp))
  | [a, b], _, _ =>
    simp only [List.foldl_cons, List.foldl_nil, BitVec.zero_xor]
    intro h
    have hab : a ≠ b := by intro e; subst e; simp at hnd
    exact hab (xor_eq_zero_iff.mp h)
  | [a, b, c], _, _ =>
    simp only [List.foldl_cons, List.foldl_nil, BitVec.zero_xor]
    have hab : a ≠ b := by intro e; subst e; simp at hnd
    exact C09_three_keys_xor_ne_zero a b c (hsub a (by simp)) (hsub b (by simp)) (hsub c (by simp)) hab
  | _ :: _ :: _ :: _ :: _, _, h => simp at h

/-- the placement part of the hash when the board changes on (at most) two squares -/
theorem placement_two_squares (p q : Pos) (s1 s2 : Sq) (hne : s1 ≠ s2)
    (hsame : ∀ s, s ≠ s1 → s ≠ s2 → p.board s = q.board s) :
    placement q = placement p ^^^ keyOf (p.board s1) s1 ^^^ keyOf (q.board s1) s1
      ^^^ keyOf (p.board s2) s2 ^^^ keyOf (q.board s2) s2 := by
  -- intermediate board: `p` with square `s1` already as in `q`
  let r : Sq → Option (Piece × Color) := fun s => if s = s1 then q.board s1 else p.board s
  have h1 : allSq.foldl (fun h s => h ^^^ keyOf (r s) s) 0#64
      = placement p ^^^ keyOf (p.board s1) s1 ^^^ keyOf (r s1) s1 :=
    foldl_xor_update (fun s => keyOf (p.board s) s) (fun s => keyOf (r s) s) allSq 0#64 s1 allSq_nodup
      (mem_allSq s1) (fun s hs => by simp only [r, if_neg hs])
  have h2 : placement q
      = allSq.foldl (fun h s => h ^^^ keyOf (r s) s) 0#64 ^^^ keyOf (r s2) s2 ^^^ keyOf (q.board s2) s2 :=
    foldl_xor_update (fun s => keyOf (r s) s) (fun s => keyOf (q.board s) s) allSq 0#64 s2 allSq_nodup
      (mem_allSq s2) (fun s hs => by
        by_cases h : s = s1
        · subst h; simp only [r, if_true]
        · simp only [r, if_neg h]; rw [hsame s h hs])
  have hr1 : r s1 = q.board s1 := by simp only [r, if_true]
  have hr2 : r s2 = p.board s2 := by simp only [r, if_neg (Ne.symm hne)]
  rw [h2, h1, hr1, hr2]

/-- A piece goes from `s1` to the empty square `s2`, the side to move flips, castling rights stay and
there is no en-passant state before or after: the hash changes. -/
theorem C09_quiet_step (p q : Pos) (s1 s2 : Sq) (pc : Piece) (c : Color) (hne : s1 ≠ s2)
    (hp1 : p.board s1 = some (pc, c)) (hp2 : p.board s2 = none)
    (hq1 : q.board s1 = none) (hq2 : q.board s2 = some (pc, c))
    (hsame : ∀ s, s ≠ s1 → s ≠ s2 → p.board s = q.board s) (hstm : q.stm = p.stm.other)
    (hk : p.castleK = q.castleK) (hq : p.castleQ = q.castleQ) (hep : p.ep = none) (hep' : q.ep = none) :
    p.hashOf T ≠ q.hashOf T := by
  have he : epKey p = 0#64 := by unfold epKey; rw [hep]
  have he' : epKey q = 0#64 := by unfold epKey; rw [hep']
  -- the two side summands xor to the side key
  have hside : (if p.stm = .black then T.zSide else 0#64) ^^^ (if q.stm = .black then T.zSide else 0#64) = T.zSide := by
    rw [hstm]; cases p.stm <;> simp [Color.other]
  rw [Ne, hashOf_eq, hashOf_eq, xor5_eq_iff, placement_two_squares p q s1 s2 hne hsame, ← hk, ← hq, hp1, hp2,
    hq1, hq2, he, he', hside]
  simp only [keyOf, BitVec.xor_self, BitVec.xor_zero]
  rw [BitVec.xor_assoc (placement p) (T.zPiece c pc s1), xor_xor_cancel_left, xor_eq_zero_iff]
  -- what is left says that the xor of the two piece keys is the side key
  obtain ⟨hi, e1⟩ := zPiece_getElem c pc s1
  obtain ⟨hj, e2⟩ := zPiece_getElem c pc s2
  intro h
  refine allKeys_getElem_xor _ _ hi hj (fun h => hne (Fin.ext (by omega))) ?_
  rw [← e1, ← e2, h]
  exact zSide_mem

/-- the same for the successor function of the rules: a quiet move of a knight, bishop, rook or
queen that leaves the castling rights as they were, from a position without en-passant state -/
theorem C09_quiet_move_changes_hash (p : Pos) (m : Move) (pc : Piece) (c : Color)
    (hsrc : p.board m.src = some (pc, c)) (hpawn : pc ≠ .pawn) (hking : pc ≠ .king)
    (hne : m.src ≠ m.dst) (hdst : p.board m.dst = none) (hep : p.ep = none)
    (hk : (apply p m).castleK = p.castleK) (hq : (apply p m).castleQ = p.castleQ) :
    p.hashOf T ≠ (apply p m).hashOf T := by
  have hc := isCastle_not_king hsrc hking
  obtain ⟨he, hd⟩ := not_pawn_flags hsrc hpawn
  have hmoved : PinCheck.movedMan p m = some (pc, c) := by rw [movedMan_eq hsrc, finalMan, if_neg hpawn]
  have hb := apply_board_plain hc he
  refine C09_quiet_step p (apply p m) m.src m.dst pc c hne hsrc hdst ?_ ?_ ?_ rfl hk.symm hq.symm hep ?_
  · rw [hb, if_neg hne, if_pos rfl]
  · rw [hb, if_pos rfl, hmoved]
  · intro s h1 h2; rw [hb, if_neg h2, if_neg h1]
  · rw [Closure.apply_ep, hd]; rfl

/-- non-vacuity: the knight move b1–c3 from the initial position satisfies the hypotheses -/
example : ∃ (p : Pos) (m : Move) (pc : Piece) (c : Color),
    p.board m.src = some (pc, c) ∧ pc ≠ .pawn ∧ pc ≠ .king ∧ m.src ≠ m.dst ∧ p.board m.dst = none ∧
    p.ep = none ∧ (apply p m).castleK = p.castleK ∧ (apply p m).castleQ = p.castleQ := by
  refine ⟨⟨fun s => if s.val = 1 then some (.knight, .white) else none, .white, fun _ => false, fun _ => false, none⟩,
    ⟨⟨1, by decide⟩, ⟨18, by decide⟩, none⟩, .knight, .white, ?_, ?_, ?_, ?_, ?_, rfl, ?_, ?_⟩
  · rfl
  · decide
  · decide
  · decide
  · rfl
  · funext d; simp [apply]
  · funext d; simp [apply]

/-- non-vacuity of the key-level statement: the key table has at least three entries -/
example : ∃ a b c, a ∈ allKeys ∧ b ∈ allKeys ∧ c ∈ allKeys ∧ a ≠ b :=
  ⟨allKeys[0]'(by rw [allKeys_length]; omega), allKeys[1]'(by rw [allKeys_length]; omega), T.zSide,
    List.getElem_mem _, List.getElem_mem _, zSide_mem, by
      intro h
      have := (List.getElem_inj allKeys_nodup).mp h
      omega⟩

end Chess.Props
