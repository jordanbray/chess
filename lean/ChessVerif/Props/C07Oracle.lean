import ChessVerif.Lemmas.OracleSound
import ChessVerif.Props.C01
/-!
# The driver's oracles can never flag the proved-correct model (C07 acceptance oracle, C03 check/pin oracle)

The compiled correspondence driver judges the library's answers with small executable oracles.  Two of
them are `acceptedOk` (`Spec/Accept.lean`, copy of `Driver.acceptedOk`: the four "only if" conditions of
C07 on an accepted position) and `wfOk` (`Spec/WfOracle.lean`: what `Driver.wfFindings` tests with
findings of kind 'O': consistent occupancy, exact `checkers`, exact mover's part of `pinned`).

The theorems here say that these oracles hold of the **model's own outputs** under the hypotheses of the
C07 / C03 / C01 theorems.  Hence, on a driver line whose input satisfies those hypotheses, an
oracle finding ('O') can only occur together with a model≠implementation finding ('M') on the same line:
if the implementation's answer equals the model's, the oracle passes.

No extra hypothesis is needed: every clause of `acceptedOk` is one of the soundness clauses (a), (c),
(d), (e) of C07 (`Props/C07.lean`, `Props/C07Full.lean`) in the wording of `Spec/Rules.lean`.
-/
namespace Chess.Props
open Chess OracleSound

/-! ### (b) the readable meaning of the acceptance oracle -/

/-- `acceptedOk p = none` says exactly: one king per side; the side not to move is not in check; every
castling right is backed by king and rook on their home squares; a recorded en-passant square holds a
pawn of the side that just moved, on that side's double-push rank -/
theorem C07_acceptedOk_none_iff (p : Pos) :
    acceptedOk p = none ↔
      (∀ c, count p (· == (.king, c)) = 1) ∧
      inCheck p p.stm.other = false ∧
      (∀ c, (p.castleK c = true →
          (homeSq c 4).any (p.has · .king c) = true ∧ (homeSq c 7).any (p.has · .rook c) = true) ∧
        (p.castleQ c = true →
          (homeSq c 4).any (p.has · .king c) = true ∧ (homeSq c 0).any (p.has · .rook c) = true)) ∧
      (∀ q, p.ep = some q →
        p.has q .pawn p.stm.other = true ∧ q.rank = p.stm.other.pawnRank + 2 * p.stm.other.fwd) := by
  rw [acceptedOk_none_iff]
  constructor
  · intro h; exact ⟨h.king, h.notInCheck, fun c => ⟨h.ck c, h.cq c⟩, h.ep⟩
  · rintro ⟨h1, h2, h3, h4⟩; exact ⟨h1, h2, fun c => (h3 c).1, fun c => (h3 c).2, h4⟩

/-- the oracle reports a reason iff one of the four conditions fails -/
theorem C07_acceptedOk_isSome_iff (p : Pos) :
    (acceptedOk p).isSome = true ↔ ¬ AcceptP p := by
  rw [← acceptedOk_none_iff]
  cases acceptedOk p <;> simp

/-! ### (a) every board the model accepts passes the acceptance oracle -/

/-- every board that the model's `try_from` accepts passes the acceptance oracle -/
theorem C07_acceptedOk_of_tryFrom {T : Tables} (hT : TablesOK T) {bd : Builder} {b : Board}
    (h : Board.tryFrom T bd = some b) : acceptedOk b.abs = none :=
  (acceptedOk_none_iff _).mpr (acceptP_of_tryFrom hT h)

/-- every board that the model's `from_str` accepts passes the acceptance oracle -/
theorem C07_acceptedOk_of_parse {T : Tables} (hT : TablesOK T) {s : List Char} {b : Board}
    (h : parseBoard T s = .ok b) : acceptedOk b.abs = none := by
  obtain ⟨bd, _, ht⟩ := (C07_parse_ok_iff T s b).mp h
  exact C07_acceptedOk_of_tryFrom hT ht

/-! ### (c) valid positions -/

/-- a valid position passes the acceptance conditions, and so does the position the library records for it
(`norm`: en-passant mark kept only beside an enemy pawn) -/
theorem C07_acceptedOk_of_valid {p : Pos} (hv : Valid p = true) :
    acceptedOk p = none ∧ acceptedOk (norm p) = none :=
  ⟨(acceptedOk_none_iff _).mpr (acceptP_of_valid hv), (acceptedOk_none_iff _).mpr (acceptP_of_valid hv).norm⟩

/-- every board holding a valid position (in particular every `Good` board: the start of a game and every
board reached by legal play or a null move) passes the acceptance oracle -/
theorem C07_acceptedOk_of_good {T : Tables} {b : Board} (hg : b.Good T) : acceptedOk b.abs = none :=
  (C07_acceptedOk_of_valid hg.valid).1

/-! ### (d) the check / pin / occupancy oracle -/

/-- a board with consistent bitboards passes the occupancy clause of the oracle -/
theorem C03_occConsistent_of_struct {b : Board} (hs : Struct b) : occConsistent b = true :=
  occConsistent_of_struct hs

/-- on every `Good` board (consistent bitboards, cached fields from scratch, valid position) the oracle
`wfOk` passes: occupancy consistent, `checkers` = the specification's checkers, mover's part of `pinned` =
the specification's pinned men.  (`wfOk` does not read the tables: no `T` argument.) -/
theorem C03_wfOk_of_good {T : Tables} (hT : TablesOK T) {b : Board} (hg : b.Good T) : wfOk b b.abs = true :=
  wfOk_of_exact hg.struct
    (C03_checkers_of_PinOK hT hg.struct (hg.oneKing b.stm) hg.kingsApart hg.pin)
    (C03_pinned_of_PinOK hT hg.struct (hg.oneKing b.stm) hg.pin)

/-- the same for every board accepted by `try_from`, valid position or not -/
theorem C03_wfOk_of_tryFrom {T : Tables} (hT : TablesOK T) {bd : Builder} {b : Board}
    (h : Board.tryFrom T bd = some b) : wfOk b b.abs = true :=
  have r := C03_tryFrom hT h
  wfOk_of_exact r.2.2 r.1 r.2.1

/-- the model's successor of a `Good` board by a legal move passes both oracles (driver line `MAKE`) -/
theorem C03_wfOk_of_makeMove {T : Tables} (hT : TablesOK T) {b : Board} (hg : b.Good T) {m : Move}
    (hl : legal b.abs m = true) :
    ∃ b', b.makeMoveNew T m = some b' ∧ wfOk b' b'.abs = true ∧ acceptedOk b'.abs = none := by
  obtain ⟨b', e, hg', _⟩ := hg.makeMove hT hl
  exact ⟨b', e, C03_wfOk_of_good hT hg', C07_acceptedOk_of_good hg'⟩

/-- the model's null move from a `Good` board passes both oracles (driver line `NULL`) -/
theorem C03_wfOk_of_nullMove {T : Tables} (hT : TablesOK T) {b b' : Board} (hg : b.Good T)
    (h : b.nullMove T = some b') : wfOk b' b'.abs = true ∧ acceptedOk b'.abs = none :=
  have hg' := hg.nullMove hT h
  ⟨C03_wfOk_of_good hT hg', C07_acceptedOk_of_good hg'⟩

/-! ### non-vacuity -/

section Examples
open GameExamples

/-- (a) on an accepted position with an en-passant mark (all four clauses of the oracle are exercised: the
`ep` branch is the `some` one) -/
example : ∃ bd b, Board.tryFrom codeTables bd = some b ∧ b.abs.ep = some 28 ∧ acceptedOk b.abs = none := by
  obtain ⟨bd, b, h, hq⟩ := C07_ep_accepted
  exact ⟨bd, b, h, hq, C07_acceptedOk_of_tryFrom codeTables_ok h⟩

/-- (b) is not vacuous in either direction: the oracle passes the initial position and flags the position
with the white king removed -/
example : acceptedOk startBoard.abs = none ∧
    (acceptedOk { startBoard.abs with board := fun s => if s = 4 then none else startBoard.abs.board s }).isSome = true := by
  constructor <;> decide +kernel

/-- (c) on the initial position -/
example : Valid startBoard.abs = true ∧ acceptedOk (norm startBoard.abs) = none :=
  ⟨startPos_valid, (C07_acceptedOk_of_valid startPos_valid).2⟩

/-- (d) on a board with a check and a pin (knight f3 checks, bishop e2 pinned by the rook e8): both
`Geom.setOf` sides are non-empty there -/
example : ∃ b, Board.tryFrom codeTables exCheckPinBd = some b ∧ wfOk b b.abs = true ∧
    b.checkers = BB.ofSq 21 ∧ b.pinned = BB.ofSq 12 := by
  have h : (Board.tryFrom codeTables exCheckPinBd).isSome = true := by decide +kernel
  obtain ⟨b, hb⟩ := Option.isSome_iff_exists.mp h
  have hf := exCheckPin_fields
  rw [hb] at hf
  simp only [Option.map_some, Option.some.injEq, Prod.mk.injEq] at hf
  exact ⟨b, hb, C03_wfOk_of_tryFrom codeTables_ok hb, hf.1, hf.2⟩

/-- (d) on a `Good` board, and after 1. e4 from it -/
example : ∃ b b' : Board, b.Good codeTables ∧ wfOk b b.abs = true ∧
    b.makeMoveNew codeTables ⟨12, 28, none⟩ = some b' ∧ wfOk b' b'.abs = true ∧ acceptedOk b'.abs = none := by
  obtain ⟨b, _, habs, hg⟩ := C01_good_of_valid_pos codeTables_ok startPos_valid
  obtain ⟨b', hm, hw, ha⟩ := C03_wfOk_of_makeMove codeTables_ok hg (startPos_e4 habs)
  exact ⟨b, b', hg, C03_wfOk_of_good codeTables_ok hg, hm, hw, ha⟩

/-- the oracle `wfOk` is not trivially true: it flags the initial board with a stale `checkers` field -/
example : wfOk { startBoard with checkers := BB.ofSq 12 } startBoard.abs = false := by decide +kernel

end Examples

end Chess.Props
