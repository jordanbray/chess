import ChessVerif.Props.C14
import ChessVerif.Refine.Abs
/-!
# C04 — status is Checkmate / Stalemate / Ongoing exactly as the rules define

`Board.status` is the model of `Board::status` (it reads `len()` of a fresh generator and `checkers`).
Proved here, for every board and every table set: the status is determined by *the moves the
generator yields* and the cached checkers: checkmate ⇔ no generated move ∧ checkers ≠ ∅,
stalemate ⇔ no generated move ∧ checkers = ∅, ongoing otherwise (uses `len` exactness, C14).
Reading "generated moves" as "FIDE-legal moves" and "checkers ≠ ∅" as "in check" is C01 and C03;
`C04_full` is the composed statement and `C04_of_C01_C03` derives it from those two.
-/
namespace Chess.Props
open Chess.MoveGen

theorem C04_status_checkmate (T : Tables) (b : Board) :
    b.status T = .checkmate ↔ b.legalMoves T = [] ∧ b.checkers ≠ 0#64 := by
  rw [Entries.status_eq]
  by_cases h : b.legalMoves T = [] <;> by_cases hc : b.checkers = 0#64 <;> simp [h, hc]

theorem C04_status_stalemate (T : Tables) (b : Board) :
    b.status T = .stalemate ↔ b.legalMoves T = [] ∧ b.checkers = 0#64 := by
  rw [Entries.status_eq]
  by_cases h : b.legalMoves T = [] <;> by_cases hc : b.checkers = 0#64 <;> simp [h, hc]

theorem C04_status_ongoing (T : Tables) (b : Board) :
    b.status T = .ongoing ↔ b.legalMoves T ≠ [] := by
  rw [Entries.status_eq]
  by_cases h : b.legalMoves T = [] <;> by_cases hc : b.checkers = 0#64 <;> simp [h, hc]

/-- the property at full strength, on the FIDE specification -/
def C04_full (T : Tables) (b : Board) : Prop :=
  (b.status T = .checkmate ↔ Chess.status b.abs = .checkmate) ∧
  (b.status T = .stalemate ↔ Chess.status b.abs = .stalemate) ∧
  (b.status T = .ongoing ↔ Chess.status b.abs = .ongoing)

/-- C04 follows from C01 (generated moves = FIDE-legal moves, as sets) and C03 (checkers ≠ ∅ ⇔ in check) -/
theorem C04_of_C01_C03 (T : Tables) (b : Board)
    (h01 : ∀ m, m ∈ b.legalMoves T ↔ Chess.legal b.abs m = true ∧ m ∈ Chess.candidates b.abs)
    (h03 : b.checkers ≠ 0#64 ↔ Chess.inCheck b.abs b.abs.stm = true) : C04_full T b := by
  have hany : (Chess.candidates b.abs).any (Chess.legal b.abs) = true ↔ b.legalMoves T ≠ [] := by
    rw [List.any_eq_true]
    constructor
    · rintro ⟨m, hm, hl⟩ he
      have := (h01 m).mpr ⟨hl, hm⟩
      rw [he] at this; cases this
    · intro hne
      cases hl : b.legalMoves T with
      | nil => exact absurd hl hne
      | cons m ms =>
        have := (h01 m).mp (by rw [hl]; simp)
        exact ⟨m, this.2, this.1⟩
  unfold C04_full Chess.status
  rw [C04_status_checkmate, C04_status_stalemate, C04_status_ongoing]
  by_cases hn : b.legalMoves T = []
  · have hf : (Chess.candidates b.abs).any (Chess.legal b.abs) = false := by
      cases hh : (Chess.candidates b.abs).any (Chess.legal b.abs) with
      | false => rfl
      | true => exact absurd hn (hany.mp hh)
    by_cases hc : b.checkers = 0#64
    · have : Chess.inCheck b.abs b.abs.stm = false := by
        cases hh : Chess.inCheck b.abs b.abs.stm with
        | false => rfl
        | true => exact absurd hc (h03.mpr hh)
      simp [hn, hf, hc, this]
    · have : Chess.inCheck b.abs b.abs.stm = true := h03.mp hc
      simp [hn, hf, hc, this]
  · have ht : (Chess.candidates b.abs).any (Chess.legal b.abs) = true := hany.mpr hn
    simp [hn, ht]

end Chess.Props
