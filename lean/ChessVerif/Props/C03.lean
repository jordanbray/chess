import ChessVerif.Lemmas.SaneCheck
import ChessVerif.Proofs.TablesOK
import ChessVerif.CodeTables
/-!
# C03 — checkers, pinned men and the occupancy queries

"On every position … the reported checkers are exactly the enemy pieces attacking the king of the side
to move, the mover's pieces reported as pinned are exactly those absolutely pinned to that king, and
the per-piece, per-colour and combined occupancy queries agree with each other and with the
per-square queries."

`Board.updatePinInfo` is the model of `Board::update_pin_info`, the routine that computes the cached
`checkers` / `pinned` fields from scratch; `checkerSq` / `pinnedSq` (`Spec/Rules.lean`) are the
specification on the mailbox position `b.abs`.  `Board.PinOK T b` says the cached fields of `b` are the
from-scratch ones; it holds for every board returned by `try_from` and `null_move`.

Hypotheses of the two exactness theorems: the tables are the geometric ones (`TablesOK`, C16), the
bitboards are consistent (`Struct`), the side to move has exactly one king, and — for the checkers
only — the enemy king does not attack the mover's king (`KingsApart`): `update_pin_info` never looks at
the enemy king, whereas `checkerSq` counts any enemy man that `attacks` the king.  Without it the
statement is false (`C03_checkers_needs_kingsApart`).  `is_sane` implies all three
(`C03_of_isSane`, `C03_tryFrom`).
-/
namespace Chess.Props
open CheckPin

/-! ### checkers -/

/-- the checkers computed by `update_pin_info` are exactly the enemy men attacking the mover's king -/
theorem C03_checkers_exact {T : Tables} (hT : TablesOK T) {b : Board} (hs : Struct b)
    (hk : (b.kings &&& b.colorCombined b.stm).popcnt = 1) (hkk : KingsApart b) :
    ∀ x : Sq, (b.updatePinInfo T).checkers.getLsbD x.val = checkerSq b.abs x :=
  fun x => checkers_exact hT hs hk hkk x

/-- the per-kind statements, none of which needs `KingsApart`: the three contributions to `checkers` are
the enemy sliders on a line of their kind through `k` with nothing between, the enemy knights a knight's
jump from `k`, and the enemy pawns attacking `k` -/
theorem C03_checkers_by_kind {T : Tables} (hT : TablesOK T) {b : Board} (hs : Struct b) (k x : Sq) :
    (((pinnersAt T b k).getLsbD x.val && decide (T.between x k &&& b.combined = 0#64)) = true ↔
      b.abs.colorAt x = some b.stm.other ∧ PinCheck.sliderAligned (b.abs.board x) x k = true ∧
        ∀ z, strictlyBetween x z k = true → b.abs.empty z = true) ∧
    ((T.knight k &&& b.colorCombined b.stm.other &&& b.knights).getLsbD x.val = true ↔
      b.content x = some (.knight, b.stm.other) ∧ PinCheck.leaperAtt (b.content x) x k = true) ∧
    ((T.pawnAttacks b.stm k &&& (b.colorCombined b.stm.other &&& b.pawns)).getLsbD x.val = true ↔
      b.content x = some (.pawn, b.stm.other) ∧ PinCheck.leaperAtt (b.content x) x k = true) :=
  ⟨sliderCheck_iff hT hs k x, knightCheck_iff hT hs k x, pawnCheck_iff hT hs k x⟩

/-! ### pinned men -/

/-- the mover's men in the computed `pinned` are exactly the men absolutely pinned to the mover's king
(`pinned` may also hold enemy men standing alone between an enemy slider and the king; the property is
about the mover's men, hence the intersection with the mover's colour board) -/
theorem C03_pinned_exact {T : Tables} (hT : TablesOK T) {b : Board} (hs : Struct b)
    (hk : (b.kings &&& b.colorCombined b.stm).popcnt = 1) :
    ∀ y : Sq, ((b.updatePinInfo T).pinned &&& b.colorCombined b.stm).getLsbD y.val = pinnedSq b.abs y :=
  fun y => pinned_exact hT hs hk y

/-- `update_pin_info` changes nothing but the two cached fields, so the position is the same -/
theorem C03_updatePinInfo_abs (T : Tables) (b : Board) : (b.updatePinInfo T).abs = b.abs :=
  updatePinInfo_abs T b

/-! ### occupancy queries -/

/-- per-square, per-piece, per-colour and combined occupancy agree -/
theorem C03_occupancy_consistent {b : Board} (hs : Struct b) :
    (∀ (s : Sq) (p : Piece), b.pieceOn s = some p ↔ (b.pieces p).getLsbD s.val = true) ∧
    (∀ (s : Sq) (c : Color), b.colorOn s = some c ↔ (b.colorCombined c).getLsbD s.val = true) ∧
    (∀ s : Sq, b.pieceOn s = none ↔ b.combined.getLsbD s.val = false) ∧
    (∀ s : Sq, b.colorOn s = none ↔ b.combined.getLsbD s.val = false) ∧
    b.combined = b.colorCombined .white ||| b.colorCombined .black ∧
    b.combined = b.pieces .pawn ||| b.pieces .knight ||| b.pieces .bishop ||| b.pieces .rook |||
      b.pieces .queen ||| b.pieces .king ∧
    b.colorCombined .white &&& b.colorCombined .black = 0#64 ∧
    (∀ p q : Piece, p ≠ q → b.pieces p &&& b.pieces q = 0#64) :=
  ⟨fun s p => pieceOn_some_iff hs s p, fun s c => colorOn_some_iff hs s c, fun s => pieceOn_none_iff b s,
    fun s => colorOn_none_iff hs s, combined_eq_colors hs, by rw [← hs.union_eq, BitVec.zero_or]; rfl,
    hs.colors_and_eq_zero, hs.pieces_and_eq_zero⟩

/-- a square holds a man for `piece_on` iff it does for `color_on` -/
theorem C03_pieceOn_colorOn {b : Board} (hs : Struct b) (s : Sq) :
    (b.pieceOn s).isSome = (b.colorOn s).isSome := by
  rw [Option.isSome_eq_isSome, pieceOn_none_iff, colorOn_none_iff hs]

/-- `king_square(c)`: with exactly one king of colour `c`, it is the square holding that king -/
theorem C03_king_square {b : Board} (hs : Struct b) {c : Color}
    (hk : (b.kings &&& b.colorCombined c).popcnt = 1) :
    (∀ s : Sq, (b.pieceOn s = some .king ∧ b.colorOn s = some c) ↔ s = b.kingSquare c) ∧
    b.abs.board (b.kingSquare c) = some (.king, c) ∧
    kingSq? b.abs c = some (b.kingSquare c) := by
  refine ⟨?_, ?_, kingSq?_abs hs hk⟩
  · intro s
    rw [pieceOn_some_iff hs, colorOn_some_iff hs, ← kingSquare_bit hk, BitVec.getLsbD_and, Bool.and_eq_true]
    exact Iff.rfl
  · rw [abs_board]; exact content_kingSquare hs hk

/-! ### the cached fields -/

theorem C03_updatePinInfo_idem (T : Tables) (b : Board) :
    (b.updatePinInfo T).updatePinInfo T = b.updatePinInfo T := updatePinInfo_idem T b

theorem C03_pinOK_updatePinInfo (T : Tables) (b : Board) : (b.updatePinInfo T).PinOK T :=
  Board.PinOK.updatePinInfo T b

theorem C03_pinOK_tryFrom {T : Tables} {bd : Builder} {b : Board} (h : Board.tryFrom T bd = some b) :
    b.PinOK T := Board.PinOK.tryFrom h

theorem C03_pinOK_nullMove {T : Tables} {b b' : Board} (h : b.nullMove T = some b') : b'.PinOK T :=
  Board.PinOK.nullMove h

/-- on a board whose cached fields are the from-scratch ones, `checkers()` is exact -/
theorem C03_checkers_of_PinOK {T : Tables} (hT : TablesOK T) {b : Board} (hs : Struct b)
    (hk : (b.kings &&& b.colorCombined b.stm).popcnt = 1) (hkk : KingsApart b) (hp : b.PinOK T) :
    ∀ x : Sq, b.checkers.getLsbD x.val = checkerSq b.abs x :=
  hp.checkers_exact hT hs hk hkk

/-- on a board whose cached fields are the from-scratch ones, `pinned()` restricted to the mover's men
is exact -/
theorem C03_pinned_of_PinOK {T : Tables} (hT : TablesOK T) {b : Board} (hs : Struct b)
    (hk : (b.kings &&& b.colorCombined b.stm).popcnt = 1) (hp : b.PinOK T) :
    ∀ y : Sq, (b.pinned &&& b.colorCombined b.stm).getLsbD y.val = pinnedSq b.abs y :=
  hp.pinned_exact hT hs hk

/-- `is_sane` supplies the king-count and king-distance hypotheses -/
theorem C03_of_isSane {T : Tables} (hT : TablesOK T) {b : Board} (hs : Struct b) (hsane : b.isSane T = true)
    (hp : b.PinOK T) :
    (∀ x : Sq, b.checkers.getLsbD x.val = checkerSq b.abs x) ∧
    (∀ y : Sq, (b.pinned &&& b.colorCombined b.stm).getLsbD y.val = pinnedSq b.abs y) :=
  have hk := (isSane_facts hsane).king b.stm
  ⟨C03_checkers_of_PinOK hT hs hk (SaneCheck.kingsApart_of_facts hT hs (isSane_facts hsane)) hp, C03_pinned_of_PinOK hT hs hk hp⟩

/-- every board accepted by `try_from` (hence every board parsed from a FEN): checkers, pinned men and
occupancy queries are exact, with no further hypothesis -/
theorem C03_tryFrom {T : Tables} (hT : TablesOK T) {bd : Builder} {b : Board}
    (h : Board.tryFrom T bd = some b) :
    (∀ x : Sq, b.checkers.getLsbD x.val = checkerSq b.abs x) ∧
    (∀ y : Sq, (b.pinned &&& b.colorCombined b.stm).getLsbD y.val = pinnedSq b.abs y) ∧
    Struct b :=
  have hs := tryFrom_struct h
  have r := C03_of_isSane hT hs (tryFrom_isSane h) (C03_pinOK_tryFrom h)
  ⟨r.1, r.2, hs⟩

/-- the same with the tables of the code -/
theorem C03_tryFrom_code {bd : Builder} {b : Board} (h : Board.tryFrom codeTables bd = some b) :
    (∀ x : Sq, b.checkers.getLsbD x.val = checkerSq b.abs x) ∧
    (∀ y : Sq, (b.pinned &&& b.colorCombined b.stm).getLsbD y.val = pinnedSq b.abs y) ∧
    Struct b := C03_tryFrom codeTables_ok h

/-! ### the `KingsApart` hypothesis is necessary -/

/-- white Ke1, black Ke2, white to move: consistent bitboards, one king each -/
def exAdjacentKings : Board :=
  { Board.blank with
    kings := BB.ofSq 4 ||| BB.ofSq 12, white := BB.ofSq 4, black := BB.ofSq 12,
    combined := BB.ofSq 4 ||| BB.ofSq 12 }

theorem exAdjacentKings_struct : Struct exAdjacentKings := by
  apply Struct.of_eqs'
  · intro x y
    cases x <;> cases y <;> decide
  · decide
  · decide
  · decide

/-- without `KingsApart` the checkers statement fails: the specification counts the adjacent enemy king
as attacking, `update_pin_info` reports nothing -/
theorem C03_checkers_needs_kingsApart :
    ∃ b : Board, Struct b ∧ (b.kings &&& b.colorCombined b.stm).popcnt = 1 ∧
      ∃ x : Sq, (b.updatePinInfo codeTables).checkers.getLsbD x.val ≠ checkerSq b.abs x := by
  refine ⟨exAdjacentKings, exAdjacentKings_struct, by decide +kernel, 12, ?_⟩
  have h1 : (exAdjacentKings.updatePinInfo codeTables).checkers.getLsbD (12 : Sq).val = false := by
    decide +kernel
  have h2 : checkerSq exAdjacentKings.abs 12 = true := by decide +kernel
  rw [h1, h2]; decide

/-! ### non-vacuity: a position with a check and a pin

White Ke1, Be2; black Ka8, Re8, Nf3; white to move.  The knight on f3 (21) gives check, the bishop on
e2 (12) is pinned by the rook on e8. -/
def exCheckPinBd : Builder where
  pieces s := match s.val with
    | 4 => some (.king, .white) | 12 => some (.bishop, .white)
    | 56 => some (.king, .black) | 60 => some (.rook, .black) | 21 => some (.knight, .black)
    | _ => none
  stm := .white
  wcr := .noRights
  bcr := .noRights
  epFile := none

theorem exCheckPin_fields :
    (Board.tryFrom codeTables exCheckPinBd).map (fun b => (b.checkers, b.pinned)) =
      some (BB.ofSq 21, BB.ofSq 12) := by decide +kernel

/-- the hypotheses of `C03_checkers_exact`, `C03_pinned_exact`, `C03_checkers_of_PinOK`,
`C03_pinned_of_PinOK`, `C03_of_isSane`, `C03_tryFrom` hold on this board, and both sides of the equations
are non-trivial there -/
example : ∃ b : Board, Board.tryFrom codeTables exCheckPinBd = some b ∧ Struct b ∧
    (b.kings &&& b.colorCombined b.stm).popcnt = 1 ∧ KingsApart b ∧ b.PinOK codeTables ∧
    b.isSane codeTables = true ∧ checkerSq b.abs 21 = true ∧ pinnedSq b.abs 12 = true ∧
    checkerSq b.abs 60 = false ∧ pinnedSq b.abs 4 = false := by
  have hf := exCheckPin_fields
  obtain ⟨b, hb, hf⟩ := Option.map_eq_some_iff.mp hf
  simp only [Prod.mk.injEq] at hf
  obtain ⟨hc, hp⟩ := hf
  have hs := tryFrom_struct hb
  have hsane := tryFrom_isSane hb
  obtain ⟨r1, r2, _⟩ := C03_tryFrom_code hb
  have hstm : b.stm = .white := (tryFrom_spec codeTables _ b hb).2.2.1
  refine ⟨b, hb, hs, (isSane_facts hsane).king b.stm, SaneCheck.kingsApart_of_facts codeTables_ok hs (isSane_facts hsane),
    C03_pinOK_tryFrom hb, hsane, ?_, ?_, ?_, ?_⟩
  · rw [← r1, hc]; decide
  · rw [← r2, hp, hstm]
    rw [BitVec.getLsbD_and, Bool.and_eq_true]
    refine ⟨by decide, ?_⟩
    have := (hs.content_some_iff 12 .bishop .white).mp (by
      rw [(tryFrom_spec codeTables _ b hb).2.1]; rfl)
    exact this.2
  · rw [← r1, hc]; decide
  · rw [← r2, hp, BitVec.getLsbD_and]
    have : (BB.ofSq 12).getLsbD (4 : Sq).val = false := by decide
    rw [this]; rfl

/-- the hypothesis of `C03_occupancy_consistent` / `C03_king_square` on the same board -/
example : ∃ b : Board, Struct b ∧ (b.kings &&& b.colorCombined .black).popcnt = 1 ∧ b.kingSquare .black = 56 := by
  obtain ⟨b, hb, _⟩ := Option.map_eq_some_iff.mp exCheckPin_fields
  have hs := tryFrom_struct hb
  have hk := (isSane_facts (tryFrom_isSane hb)).king .black
  refine ⟨b, hs, hk, ?_⟩
  have := ((C03_king_square hs hk).1 56).mp ?_
  · exact this.symm
  · have hc : b.content 56 = some (.king, .black) := by
      rw [(tryFrom_spec codeTables _ b hb).2.1]; rfl
    obtain ⟨h1, h2⟩ := (hs.content_some_iff 56 .king .black).mp hc
    exact ⟨(pieceOn_some_iff hs 56 .king).mpr h1, (colorOn_some_iff hs 56 .black).mpr h2⟩

end Chess.Props
