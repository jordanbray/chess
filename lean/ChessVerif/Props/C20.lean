import ChessVerif.Lemmas.BitBoard
/-!
# C20 — `BitBoard` behaves as a set of squares

A `BitBoard(u64)` is `BB = BitVec 64`; square `s` is a member iff bit `s` is set (`BB.has b s =
b.getLsbD s.val`).  `Spec.members b` is the ascending list of its members.  The model functions are
those of `ChessVerif/Basic.lean`: `BB.toList` (the `Iterator` impl: take `to_square`, xor it away,
at most 64 times), `BB.popcnt` (`u64::count_ones`), `BB.toSq` (`trailing_zeros`, masked with 63),
`BB.ofSq` (`1 << sq`), `BB.swapBytes` (`reverse_colors`), `BB.ofList` (or-ing `from_square`s).
Every statement quantifies over all 2^64 values.
-/
namespace Chess.Props

/-- iteration yields exactly the set squares, each once, in ascending order -/
theorem C20_iter_exact (b : BB) : b.toList = allSq.filter (fun s => b.getLsbD s.val) :=
  BB.toList_exact b

/-- the same, against the specification's name for the member list -/
theorem C20_iter_members (b : BB) : b.toList = Spec.members b := BB.toList_exact b

/-- `popcnt` is the number of member squares -/
theorem C20_popcnt_exact (b : BB) : b.popcnt = (allSq.filter fun s => b.getLsbD s.val).length :=
  BB.popcnt_eq_length_members b

/-- `to_square` of a non-empty board is its lowest member -/
theorem C20_to_square_lowest (b : BB) (h : b ≠ 0#64) :
    b.getLsbD b.toSq.val = true ∧ ∀ s : Sq, b.getLsbD s.val = true → b.toSq.val ≤ s.val :=
  ⟨BB.getLsbD_toSq b h, fun s hs => BB.toSq_le_of_getLsbD b s.val hs⟩

/-- `&`, `|`, `^`, `!` are intersection, union, symmetric difference, complement -/
theorem C20_and (a b : BB) (s : Sq) : (a &&& b).has s = (a.has s && b.has s) := by
  simp only [BB.has, BitVec.getLsbD_and]

theorem C20_or (a b : BB) (s : Sq) : (a ||| b).has s = (a.has s || b.has s) := by
  simp only [BB.has, BitVec.getLsbD_or]

theorem C20_xor (a b : BB) (s : Sq) : (a ^^^ b).has s = (a.has s != b.has s) := by
  simp only [BB.has, BitVec.getLsbD_xor]

theorem C20_not (a : BB) (s : Sq) : (~~~ a).has s = !a.has s := by
  simp only [BB.has, BitVec.getLsbD_not, s.isLt, decide_true, Bool.true_and]

/-- the raw bit-index forms of the pointwise laws (all indices; `~~~` only below 64) -/
theorem C20_pointwise (a b : BB) (i : Nat) :
    (a &&& b).getLsbD i = (a.getLsbD i && b.getLsbD i) ∧
    (a ||| b).getLsbD i = (a.getLsbD i || b.getLsbD i) ∧
    (a ^^^ b).getLsbD i = (a.getLsbD i != b.getLsbD i) ∧
    (i < 64 → (~~~ a).getLsbD i = !a.getLsbD i) := by
  refine ⟨BitVec.getLsbD_and .., BitVec.getLsbD_or .., BitVec.getLsbD_xor .., ?_⟩
  intro hi
  simp [hi]

/-- `from_square` then `to_square` is the identity on squares -/
theorem C20_from_to_square (s : Sq) : (BB.ofSq s).toSq = s := BB.toSq_ofSq s

/-- `to_square` then `from_square` is the identity on singletons -/
theorem C20_to_from_square (b : BB) (h : b.popcnt = 1) : BB.ofSq b.toSq = b := BB.ofSq_toSq b h

/-- `from_square s` is the singleton `{s}` -/
theorem C20_from_square_singleton (s t : Sq) : (BB.ofSq s).has t = decide (t = s) :=
  BB.getLsbD_ofSq_val s t

/-- `reverse_colors` (`swap_bytes`) flips the ranks: square `s` of the result is square `s ^ 56` -/
theorem C20_reverse_colors (b : BB) (s : Sq) :
    (BB.swapBytes b).getLsbD s.val = b.getLsbD (s.val ^^^ 56) := BB.getLsbD_swapBytes b s

/-- `s ^ 56` keeps the file and mirrors the rank -/
theorem C20_xor56_geometry (s : Sq) : (s.val ^^^ 56) % 8 = s.val % 8 ∧ (s.val ^^^ 56) / 8 = 7 - s.val / 8 := by
  revert s; decide

/-- a board built from a list of squares has exactly those members -/
theorem C20_ofList_mem (l : List Sq) (s : Sq) : (BB.ofList l).getLsbD s.val = decide (s ∈ l) :=
  BB.getLsbD_ofList l s

/-! non-vacuity: concrete boards meeting the hypotheses -/
example : (0x8100000000000081#64 : BB) ≠ 0#64 ∧ BB.toSq 0x8100000000000081#64 = (⟨0, by decide⟩ : Sq) := by decide
example : (BB.ofSq ⟨27, by decide⟩).popcnt = 1 := by decide
example : BB.toList 0x8100000000000081#64 = ([⟨0, by decide⟩, ⟨7, by decide⟩, ⟨56, by decide⟩, ⟨63, by decide⟩] : List Sq) := by
  decide
example : BB.swapBytes 0x00000000000000FF#64 = 0xFF00000000000000#64 := by decide

end Chess.Props
