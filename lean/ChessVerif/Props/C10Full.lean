import ChessVerif.Lemmas.GameRefine
/-!
# C10 at full strength — the game protocol of `game.rs` refines the protocol of the specification

"A game accepts a move exactly when it has no result yet and the move is legal in its current position; its
current position, side to move and action log always equal the start position advanced by precisely the
accepted actions in order.  As soon as a result exists it names the right outcome and side, never changes,
and every further action is refused without altering the game; a draw is accepted only if the latest action
is a draw offer or the latest action is a move whose mover offered a draw immediately before it."

`Props/C10.lean` proves the sentences about the model `Chess.Game` in the model's own vocabulary
(`Board::legal`, `Board::status`, replay by `make_move_new`).  Here they are tied to the specification
`Spec.GameSt` (`Spec/Game.lean`): mailbox positions, FIDE legality `legal`, FIDE `status`, successor
`norm (apply p m)`.

* `GameRefine.Sim T g sg` — the replay of `g` does not panic, yields a `Good` board (consistent bitboards and
  hash, from-scratch caches, valid position) whose position is `sg.pos`, and `g.moves = sg.log`.
* `C10_sim_init`, `C10_sim_step`, `C10_refines` — a game started on a `Good` board is related to
  `GameSt.init`; every request except a draw claim is answered identically by model and Spec and keeps the
  relation; hence so does every list of such requests, and the model run never panics.  (Draw claims:
  `Props/C11Full.lean`, where the relation is extended by history and clock.)
* the sentences of the property in the Spec's vocabulary: `C10_move_accepted_iff_legal`,
  `C10_observables`, `C10_result_names_outcome`, `C10_result_final_spec`, `C10_accept_draw_iff_spec`.

`GameSt.acceptAllowed` coincides with the model's test whenever there is no result, so the answers to
`accept_draw` are *equal*, not merely implied.  No discrepancy between model and Spec was found.
-/
namespace Chess.Props
open Chess Chess.Game Chess.GameRefine Chess.GameExamples

variable {T : Tables}

/-- a new game on a `Good` board is related to the Spec's initial state on its position -/
theorem C10_sim_init {b0 : Board} (h0 : b0.Good T) : Sim T ⟨b0, []⟩ (Spec.GameSt.init b0.abs) := sim_init h0

/-- what the relation says about the observers: `result()`, `side_to_move()`, `current_position()`, `actions()` -/
theorem C10_observables (hT : TablesOK T) {g : Game} {sg : Spec.GameSt} (h : Sim T g sg) :
    g.result T = some sg.result ∧ g.sideToMove = sg.pos.stm ∧
    (g.currentPosition T).map Board.abs = some sg.pos ∧ g.moves = sg.log :=
  ⟨sim_result hT h, sim_sideToMove h, sim_position h, sim_log h⟩

/-- under the relation no request panics -/
theorem C10_sim_total (hT : TablesOK T) {g : Game} {sg : Spec.GameSt} (h : Sim T g sg) (a : Action) :
    ∃ g' acc, g.perform T a = some (g', acc) :=
  have ⟨r, hp⟩ := Option.isSome_iff_exists.1 (sim_perform_isSome hT h a)
  ⟨r.1, r.2, hp⟩

/-- **one request**: a request other than a draw claim is accepted by the model iff the Spec accepts it, and
the new states are related -/
theorem C10_sim_step (hT : TablesOK T) {g g' : Game} {sg : Spec.GameSt} (h : Sim T g sg) {a : Action}
    (ha : a ≠ .declareDraw) {acc : Bool} (hp : g.perform T a = some (g', acc)) :
    acc = (sg.step a).2 ∧ Sim T g' (sg.step a).1 := sim_perform hT h ha hp

/-- **C10, refinement.** From a `Good` start board, for every list of requests without draw claims: the model
run does not panic, accepts exactly the requests the Spec accepts (in order), and its final game is related
to the Spec's final state — same result, side to move, position and log. -/
theorem C10_refines (hT : TablesOK T) {b0 : Board} (h0 : b0.Good T) (acts : List Action)
    (hnd : ∀ a ∈ acts, a ≠ Action.declareDraw) :
    ∃ gf, run T ⟨b0, []⟩ acts = some (gf, (specRun (Spec.GameSt.init b0.abs) acts).2) ∧
      Sim T gf (specRun (Spec.GameSt.init b0.abs) acts).1 :=
  sim_run hT (sim_init h0) acts hnd

/-- the final game of such a run satisfies the log invariant of `Props/C10.lean`: every logged action was
acceptable when it was appended -/
theorem C10_refines_logOK {b0 : Board} {acts accd : List Action} {gf : Game}
    (h : run T ⟨b0, []⟩ acts = some (gf, accd)) : LogOK T gf ∧ gf.startPos = b0 ∧ gf.moves = accd := by
  obtain ⟨h1, h2, _⟩ := C10_log_is_accepted_requests h
  exact ⟨C10_LogOK_run (C10_LogOK_new T b0) h, h1, by simpa using h2⟩

/-- the same from any related pair of states -/
theorem C10_refines_from (hT : TablesOK T) {g : Game} {sg : Spec.GameSt} (h : Sim T g sg) (acts : List Action)
    (hnd : ∀ a ∈ acts, a ≠ Action.declareDraw) :
    ∃ gf, run T g acts = some (gf, (specRun sg acts).2) ∧ Sim T gf (specRun sg acts).1 :=
  sim_run hT h acts hnd

/-! ## the sentences of the property, in the Spec's vocabulary -/

/-- a move is accepted exactly when there is no result yet and it is legal under the FIDE rules in the
current position; then the position becomes the successor position and the move is appended to the log -/
theorem C10_move_accepted_iff_legal (hT : TablesOK T) {g g' : Game} {sg : Spec.GameSt} (h : Sim T g sg)
    {m : Move} {acc : Bool} (hp : g.makeMove T m = some (g', acc)) :
    (acc = true ↔ sg.result = none ∧ legal sg.pos m = true) ∧
    (acc = true → g'.moves = sg.log ++ [.makeMove m] ∧
      (g'.currentPosition T).map Board.abs = some (norm (apply sg.pos m))) ∧
    (acc = false → g' = g) := by
  obtain ⟨hacc, hs'⟩ := sim_perform hT h (a := .makeMove m) (by simp) hp
  refine ⟨hacc ▸ step_accepts_iff sg _, fun ht => ?_, (perform_spec (a := .makeMove m) hp).2.2⟩
  obtain ⟨hr, hl⟩ := (step_accepts_iff sg _).1 (hacc ▸ ht)
  rw [step_eq, hr, hl] at hs'
  exact ⟨sim_log hs', sim_position hs'⟩

/-- the outcome `result()` reports is the Spec's, and the Spec's names the right outcome and side: checkmate
of the side to move (the other side wins), stalemate, or — in an ongoing position — what the last accepted
action says -/
theorem C10_result_names_outcome (hT : TablesOK T) {g : Game} {sg : Spec.GameSt} (h : Sim T g sg) :
    g.result T = some sg.result ∧
    (∀ r, sg.result = some r →
      (r = .whiteCheckmates ↔ Chess.status sg.pos = .checkmate ∧ sg.pos.stm = .black) ∧
      (r = .blackCheckmates ↔ Chess.status sg.pos = .checkmate ∧ sg.pos.stm = .white) ∧
      (r = .stalemate ↔ Chess.status sg.pos = .stalemate) ∧
      (r = .drawAccepted ↔ Chess.status sg.pos = .ongoing ∧ sg.log.getLast? = some .acceptDraw) ∧
      (r = .drawDeclared ↔ Chess.status sg.pos = .ongoing ∧ sg.log.getLast? = some .declareDraw) ∧
      (r = .whiteResigns ↔ Chess.status sg.pos = .ongoing ∧ sg.log.getLast? = some (.resign .white)) ∧
      (r = .blackResigns ↔ Chess.status sg.pos = .ongoing ∧ sg.log.getLast? = some (.resign .black))) ∧
    (sg.result = none ↔ Chess.status sg.pos = .ongoing ∧
      (sg.log.getLast? = none ∨ (∃ m, sg.log.getLast? = some (.makeMove m)) ∨
        (∃ c, sg.log.getLast? = some (.offerDraw c)))) := by
  have hres := sim_result hT h
  obtain ⟨cur, hc, hg, habs, hlog⟩ := h
  obtain ⟨h1, h2, h3⟩ := C04_status_exact hT hg
  rw [habs] at h1 h2 h3
  have hstm : cur.stm = sg.pos.stm := by rw [← habs]; rfl
  refine ⟨hres, fun r hr => ?_, ?_⟩
  · rw [hr] at hres
    obtain ⟨cur', hc', _, this⟩ := result_correct hres
    obtain rfl : cur = cur' := Option.some.inj (hc.symm.trans hc')
    simpa only [h1, h2, h3, hstm, hlog] using this
  · rw [← Option.some_inj (a := sg.result), ← hres, result_none_iff, ← hlog]
    constructor
    · rintro ⟨cur', hc', hs, hl⟩
      obtain rfl : cur = cur' := Option.some.inj (hc.symm.trans hc')
      exact ⟨h3.1 hs, hl⟩
    · rintro ⟨hs, hl⟩
      exact ⟨cur, hc, h3.2 hs, hl⟩

/-- once there is a result it never changes: model and Spec refuse every request (draw claims included) and
return their state unchanged, so the result stays what it was -/
theorem C10_result_final_spec (hT : TablesOK T) {g : Game} {sg : Spec.GameSt} (h : Sim T g sg) {r : GameResult}
    (hr : sg.result = some r) (a : Action) :
    g.perform T a = some (g, false) ∧ sg.step a = (sg, false) ∧ g.result T = some (some r) := by
  have hres := sim_result hT h
  rw [hr] at hres
  exact ⟨perform_of_result hres a, by rw [step_eq, hr]; rfl, hres⟩

/-- … and for any list of requests -/
theorem C10_result_final_run_spec (hT : TablesOK T) {g : Game} {sg : Spec.GameSt} (h : Sim T g sg) {r : GameResult}
    (hr : sg.result = some r) (acts : List Action) :
    run T g acts = some (g, []) ∧ specRun sg acts = (sg, []) := by
  have hres := sim_result hT h
  rw [hr] at hres
  refine ⟨C10_result_stable_run hres acts, ?_⟩
  induction acts with
  | nil => rfl
  | cons a rest ih =>
    have : sg.step a = (sg, false) := by rw [step_eq, hr]; rfl
    simp [specRun, this, ih]

/-- a draw is accepted exactly when there is no result and the Spec's condition holds: the latest action is a
draw offer, or it is a move and the action before it is a draw offer by the side that made that move -/
theorem C10_accept_draw_iff_spec (hT : TablesOK T) {g g' : Game} {sg : Spec.GameSt} (h : Sim T g sg)
    {acc : Bool} (hp : g.acceptDraw T = some (g', acc)) :
    (acc = true ↔ sg.result = none ∧ sg.acceptAllowed = true) ∧
    (acc = true → g'.moves = sg.log ++ [.acceptDraw] ∧ g'.result T = some (some .drawAccepted)) ∧
    (acc = false → g' = g) := by
  obtain ⟨hacc, _⟩ := sim_perform hT h (a := .acceptDraw) (by simp) hp
  obtain ⟨h1, h2, h3⟩ := perform_spec (a := .acceptDraw) hp
  refine ⟨hacc ▸ step_accepts_iff sg _, fun ht => ?_, h3⟩
  rw [h2 ht]
  exact ⟨by rw [sim_log h], result_after_nonmove (h1.1 ht).1 .acceptDraw rfl⟩

/-- what `acceptAllowed` says, spelled out on the log -/
theorem C10_acceptAllowed_iff (sg : Spec.GameSt) :
    sg.acceptAllowed = true ↔
      (∃ c, sg.log.getLast? = some (.offerDraw c)) ∨
      (∃ m pre, sg.log = pre ++ [.offerDraw sg.pos.stm.other, .makeMove m]) := acceptAllowed_iff sg

/-! ## non-vacuity (real tables): fool's mate through both runs -/

/-- 1. f3 e5 2. g4 Qh4#, then a further move and a resignation (both refused) -/
def foolsMateReqs : List Action := [mv 13 21, mv 52 36, mv 14 30, mv 59 31, mv 12 28, .resign .white]

/-- the model run, evaluated directly (independent of the theorems): from the initial position set up through
`try_from`, four moves accepted, the last two requests refused, Black has checkmated -/
private theorem foolsMate_run :
    ((Board.tryFrom codeTables startBoard.abs.toBuilder).bind fun b0 =>
      (run codeTables ⟨b0, []⟩ foolsMateReqs).map fun r => (r.2, r.1.result codeTables)) =
    some ([mv 13 21, mv 52 36, mv 14 30, mv 59 31], some (some .blackCheckmates)) := by decide +kernel

/-- the Spec run gives the same: four moves accepted, the last two requests refused, Black has checkmated.
(Carried over from the model run by `specRun_of_run`: evaluating the Spec's `status` on the mate position means
trying all of its 5120 candidate moves.) -/
theorem foolsMate_spec :
    (specRun (Spec.GameSt.init startBoard.abs) foolsMateReqs).2 = [mv 13 21, mv 52 36, mv 14 30, mv 59 31] ∧
    (specRun (Spec.GameSt.init startBoard.abs) foolsMateReqs).1.result = some .blackCheckmates :=
  specRun_of_run codeTables_ok startPos_valid rfl (by decide) foolsMate_run

/-- the initial position set up through `try_from` gives a `Good` board (the hypothesis of `C10_refines`);
the model run from it accepts the same four moves and reports the same result, as `C10_refines` says -/
example : ∃ b0 : Board, b0.Good codeTables ∧ b0.abs = startBoard.abs ∧
    ∃ gf, run codeTables ⟨b0, []⟩ foolsMateReqs = some (gf, [mv 13 21, mv 52 36, mv 14 30, mv 59 31]) ∧
      gf.result codeTables = some (some .blackCheckmates) ∧
      Sim codeTables gf (specRun (Spec.GameSt.init startBoard.abs) foolsMateReqs).1 := by
  obtain ⟨b0, _, habs, hg⟩ := C01_good_of_valid_pos codeTables_ok startPos_valid
  have habs' : b0.abs = startBoard.abs := habs
  obtain ⟨gf, hrun, hsim⟩ := C10_refines codeTables_ok hg foolsMateReqs (by decide)
  rw [habs'] at hrun hsim
  refine ⟨b0, hg, habs', gf, ?_, ?_, hsim⟩
  · rw [hrun, foolsMate_spec.1]
  · rw [sim_result codeTables_ok hsim, foolsMate_spec.2]

example : ((Board.tryFrom codeTables startBoard.abs.toBuilder).bind fun b0 =>
      (run codeTables ⟨b0, []⟩ foolsMateReqs).map fun r => (r.2, r.1.result codeTables)) =
    some ([mv 13 21, mv 52 36, mv 14 30, mv 59 31], some (some .blackCheckmates)) := foolsMate_run

/-- offer, move, accept: accepted by both -/
example : (specRun (Spec.GameSt.init startBoard.abs) [.offerDraw .white, mv 12 28, .acceptDraw]).1.result =
    some .drawAccepted :=
  (specRun_of_run (accd := [.offerDraw .white, mv 12 28, .acceptDraw]) codeTables_ok startPos_valid rfl
    (by decide) (by decide +kernel)).2

end Chess.Props
