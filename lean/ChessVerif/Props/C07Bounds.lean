import ChessVerif.CodeTables
import ChessVerif.Basic
/-!
# C07 / C15 — the unchecked table reads of `magic.rs` stay inside the generated arrays

`get_rook_moves` / `get_bishop_moves` read `MOVES[offset + ((magic * (occ & mask)) >> rightshift)]`
with `get_unchecked`; `get_*_moves_bmi` read `BMI_MOVES[offset + pext(occ, mask)]`.  For every
square and EVERY occupancy the index is below the array length, on the tables generated by the
current build of /repo (the per-square facts are re-checked by the kernel whenever the data changes).
All other table reads are indexed by a square (< 64), colour (< 2), file/rank (< 8) or
`CastleRights` index (< 4) into arrays of exactly that size (T1 checks the sizes when extracting).
-/
namespace Chess.Props

/-- per (slider, square): `offset + 2^(64 - shift) ≤ len(MOVES)` and `0 < shift ≤ 64` -/
def magicBoundsOK (r : Raw) : Bool :=
  (List.range 128).all fun i =>
    let shift := (word r.magicShifts i).toNat
    let off := (word r.magicOffsets i).toNat
    decide (0 < shift) && decide (shift ≤ 64) && decide (off + 2 ^ (64 - shift) ≤ r.movesLen)

theorem C07_magic_bounds_table : magicBoundsOK codeRaw = true := by decide +kernel

/-- the index computed from any occupancy is smaller than `2^(64 - shift)` -/
theorem C07_magic_index_lt (magic mask occ : BB) (shift : Nat) (h0 : 0 < shift) (h64 : shift ≤ 64) :
    ((magic * (occ &&& mask)) >>> shift).toNat < 2 ^ (64 - shift) := by
  rw [BitVec.toNat_ushiftRight, Nat.shiftRight_eq_div_pow]
  have hlt : (magic * (occ &&& mask)).toNat < 2 ^ 64 := (magic * (occ &&& mask)).isLt
  have : 2 ^ 64 = 2 ^ (64 - shift) * 2 ^ shift := by rw [← Nat.pow_add]; congr 1; omega
  rw [this] at hlt
  exact Nat.div_lt_of_lt_mul (by rw [Nat.mul_comm] at hlt; exact hlt)

/-- C07/C15: for every slider, square and occupancy the `MOVES` read is in bounds -/
theorem C07_magic_read_in_bounds (bishop : Bool) (s : Sq) (occ : BB) :
    let i := (if bishop then 64 else 0) + s.val
    (word codeRaw.magicOffsets i).toNat +
      ((word codeRaw.magicNumbers i * (occ &&& word codeRaw.magicMasks i)) >>> (word codeRaw.magicShifts i).toNat).toNat
      < codeRaw.movesLen := by
  intro i
  have hi : i < 128 := by
    have := s.isLt
    show (if bishop then 64 else 0) + s.val < 128
    split <;> omega
  have h := List.all_eq_true.mp C07_magic_bounds_table i (List.mem_range.mpr hi)
  simp only [Bool.and_eq_true, decide_eq_true_eq] at h
  have := C07_magic_index_lt (word codeRaw.magicNumbers i) (word codeRaw.magicMasks i) occ _ h.1.1 h.1.2
  omega

end Chess.Props
