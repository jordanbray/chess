import ChessVerif.CodeTables
import ChessVerif.Basic
/-!
# C07 / C15 — the unchecked `BMI_MOVES` reads of the `+bmi2` build stay inside the generated array

`get_rook_moves_bmi` / `get_bishop_moves_bmi` (`magic.rs`) read `BMI_MOVES[offset + pext(occ, mask)]`
with `get_unchecked`.  `pext` gathers the bits of `occ` at the set positions of `mask` into the low
bits, so its value is below `2 ^ popcount(mask)` for EVERY occupancy; the generated offsets leave that
much room for every slider and square (checked by the kernel on the tables extracted from the current
build of /repo, whenever the `+bmi2` tables were extracted at all: `Gen.haveBmi`).
Companion of `Props/C07Bounds.lean` (the magic-multiplication tables).
-/
namespace Chess.Props

/-- one step of the fold that defines `pext` keeps the accumulator below `2 ^ n` as long as the bit it
sets has index `< n` -/
theorem pext_fold_lt (x : BB) (n : Nat) :
    ∀ (l : List (Nat × Nat)) (acc : BB), (∀ p ∈ l, p.2 < n) → acc.toNat < 2 ^ n →
      (l.foldl (fun acc (p : Nat × Nat) => if x.getLsbD p.1 then acc ||| (1#64 <<< p.2) else acc) acc).toNat
        < 2 ^ n
  | [], acc, _, ha => ha
  | p :: l, acc, hl, ha => by
    rw [List.foldl_cons]
    apply pext_fold_lt x n l _ (fun q hq => hl q (List.mem_cons_of_mem _ hq))
    split
    · rw [BitVec.toNat_or]
      apply Nat.or_lt_two_pow ha
      rw [BitVec.toNat_shiftLeft]
      have hp : p.2 < n := hl p (List.mem_cons_self ..)
      have h1 : (1#64).toNat <<< p.2 = 2 ^ p.2 := by
        show 1 <<< p.2 = 2 ^ p.2
        exact Nat.one_shiftLeft _
      rw [h1]
      exact Nat.lt_of_le_of_lt (Nat.mod_le _ _) (Nat.pow_lt_pow_right (by decide) hp)
    · exact ha

/-- (i) `_pext_u64(x, mask) < 2 ^ popcount(mask)`, for all `x` and `mask` -/
theorem pext_lt (x mask : BB) :
    (pext x mask).toNat < 2 ^ ((List.range 64).filter (fun i => mask.getLsbD i)).length := by
  unfold pext
  apply pext_fold_lt
  · intro p hp
    have := List.snd_lt_of_mem_zipIdx hp
    simpa using this
  · show 0 < 2 ^ _
    exact Nat.pow_pos (by decide)

/-- the same with `BB.popcnt` (`u64::count_ones`) -/
theorem pext_lt_popcnt (x mask : BB) : (pext x mask).toNat < 2 ^ BB.popcnt mask := pext_lt x mask

/-- per (slider, square): `offset + 2 ^ popcount(mask) ≤ len(BMI_MOVES)` -/
def bmiBoundsOK (r : Raw) : Bool :=
  (List.range 64).all fun i =>
    decide ((word r.bmiOffsetsR i).toNat + 2 ^ BB.popcnt (word r.bmiMasksR i) ≤ r.bmiLen) &&
    decide ((word r.bmiOffsetsB i).toNat + 2 ^ BB.popcnt (word r.bmiMasksB i) ≤ r.bmiLen)

/-- (ii) the table fact, re-checked by the kernel whenever the data changes; vacuous only when the
`+bmi2` tables were not extracted (then `get_*_moves_bmi` is not compiled either) -/
theorem C07_bmi_bounds_table : Gen.haveBmi = false ∨ bmiBoundsOK codeRaw = true := by decide +kernel

/-- (iii) C07/C15: for every slider, square and occupancy the `BMI_MOVES` read is in bounds -/
theorem C07_bmi_read_in_bounds (hb : Gen.haveBmi = true) (bishop : Bool) (s : Sq) (occ : BB) :
    (word (if bishop then codeRaw.bmiOffsetsB else codeRaw.bmiOffsetsR) s.val).toNat +
      (pext occ (word (if bishop then codeRaw.bmiMasksB else codeRaw.bmiMasksR) s.val)).toNat
      < codeRaw.bmiLen := by
  have ht : bmiBoundsOK codeRaw = true := C07_bmi_bounds_table.resolve_left (by rw [hb]; decide)
  have h := List.all_eq_true.mp ht s.val (List.mem_range.mpr s.isLt)
  simp only [Bool.and_eq_true, decide_eq_true_eq] at h
  cases bishop
  · have := pext_lt_popcnt occ (word codeRaw.bmiMasksR s.val)
    simp only [Bool.false_eq_true, if_false]
    omega
  · have := pext_lt_popcnt occ (word codeRaw.bmiMasksB s.val)
    simp only [if_true]
    omega

/-- the mask used in (iii) is the one `Raw.bmiLookup` (the Model of `get_*_moves_bmi`) passes to `pext` -/
example (bishop : Bool) (s : Sq) (occ : BB) :
    codeRaw.bmiLookup bishop s occ =
      pdep (Raw.word16 ((if bishop then codeRaw.bmiSlicesB else codeRaw.bmiSlicesR).getD s.val 0)
        (pext occ (word (if bishop then codeRaw.bmiMasksB else codeRaw.bmiMasksR) s.val)).toNat)
        (word codeRaw.rays ((if bishop then 64 else 0) + s.val)) := rfl

/-! non-vacuity: the `+bmi2` tables are present in the current extraction, the bound is tight for a
rook on a1 (mask of 12 bits, all twelve relevant squares occupied) -/
example : Gen.haveBmi = true := by decide
example : bmiBoundsOK codeRaw = true := C07_bmi_bounds_table.resolve_left (by decide)
example : BB.popcnt (word codeRaw.bmiMasksR 0) = 12 ∧
    (pext (word codeRaw.bmiMasksR 0) (word codeRaw.bmiMasksR 0)).toNat = 2 ^ 12 - 1 := by decide +kernel
/-- the last slice ends exactly at the end of `BMI_MOVES` for some (slider, square) -/
example : (List.range 64).any (fun i =>
    (word codeRaw.bmiOffsetsR i).toNat + 2 ^ BB.popcnt (word codeRaw.bmiMasksR i) == codeRaw.bmiLen ||
    (word codeRaw.bmiOffsetsB i).toNat + 2 ^ BB.popcnt (word codeRaw.bmiMasksB i) == codeRaw.bmiLen) = true := by
  decide +kernel

#print axioms pext_lt
#print axioms C07_bmi_bounds_table
#print axioms C07_bmi_read_in_bounds

end Chess.Props
