import ChessVerif.Lemmas.Game
import ChessVerif.Lemmas.GameExamples
/-!
# C11 — claiming a draw (`can_declare_draw` / `declare_draw` of the Model `Chess.Game`)

"A draw can be claimed exactly when the game has no result and either the current position has
occurred at least three times in the game or the last 100 half-moves contained no pawn move and no
capture.  Claiming succeeds in exactly those situations and ends the game as a declared draw;
otherwise it is refused and changes nothing."

What is proved here, for every game value `g` and every `T : Tables`:

* `declare_draw` succeeds exactly when `can_declare_draw` says `true`, then appends `declareDraw` to the
  log and the result becomes `DrawDeclared`; otherwise the game is returned unchanged (`C11_declare_iff`,
  `C11_declare_result`).
* `can_declare_draw = true` exactly when the game has no result and `100 ≤ reversible` or the last entry
  of `seen` occurs at least three times in `seen` (`C11_can_declare_iff_model`); the pair search of
  the code is the count (`C11_threefold_iff`).
* what the two scan values are (`C11_drawStep`, `C11_drawScan_append_move`, `C11_drawScan_append_other`,
  `C11_drawScan_closed_form`, `C11_can_declare_iff_history`): with `plies T g` the list of
  `(position before, move, position after)` of the `makeMove` actions of the log,
  - `reversible` = number of trailing plies that were neither a pawn move nor a capture in the position
    they were played in (test of the code: pawn on the source square, or destination square occupied),
  - `seen` = the `(get_hash, legal move list)` entries of the last `k + 1` positions of the game, `k` =
    number of trailing plies that were neither a pawn move, nor a capture, nor changed any castling
    right; i.e. the positions since the last such irreversible ply, *including* the position it
    produced (or since the start position when there was none), and the last entry is the one of
    the current position.

**What is not proved here (but in `Props/C11Full.lean`).**  The step from "the `(hash, legal move list)`
entry of the current position occurs three times among the entries recorded since the last
irreversible ply" to "the current position has occurred three times in the whole game" needs
(a) that two *different* positions of the game never have the same `(get_hash, legal moves)` entry
    (no Zobrist collision that also preserves the legal move list), and that equal positions have
    equal entries, and
(b) that a position from before a pawn move, a capture or a loss of castling rights cannot recur
    afterwards (so cutting the list there loses no occurrence).
Likewise "pawn on the source square / destination occupied" is the model-level test for "pawn move or
capture"; its agreement with the rules of chess belongs to the refinement to `Spec`.
-/
namespace Chess.Props
open Chess Chess.Game Chess.GameExamples

/-- claiming succeeds exactly when `can_declare_draw` holds; then `declareDraw` is appended to the log,
otherwise the game is unchanged -/
theorem C11_declare_iff {T : Tables} {g g' : Game} {acc : Bool} (h : g.declareDraw T = some (g', acc)) :
    (acc = true ↔ g.canDeclareDraw T = some true) ∧
    (acc = true → g'.moves = g.moves ++ [.declareDraw] ∧ g'.startPos = g.startPos) ∧
    (acc = false → g' = g) := by
  obtain ⟨h0, h1, h2⟩ := declareDraw_spec h
  refine ⟨h0, fun ha => ?_, h2⟩
  simp [h1 ha]

/-- a successful claim ends the game as a declared draw (the position is necessarily ongoing) -/
theorem C11_declare_result {T : Tables} {g g' : Game} (h : g.declareDraw T = some (g', true)) :
    g'.result T = some (some .drawDeclared) := by
  obtain ⟨h1, h2, _⟩ := perform_spec (a := .declareDraw) h
  rw [h2 rfl]
  exact result_after_nonmove (h1.1 rfl).1 .declareDraw rfl

/-- `declare_draw` panics exactly when `can_declare_draw` does, which is exactly when the replay of
the log panics -/
theorem C11_total (T : Tables) (g : Game) :
    (g.declareDraw T = none ↔ g.currentPosition T = none) ∧
    (g.canDeclareDraw T = none ↔ g.currentPosition T = none) := by
  refine ⟨?_, canDeclareDraw_eq_none_iff T g⟩
  rw [← canDeclareDraw_eq_none_iff T g]
  simp [declareDraw]

/-- the pair search `for i in 1..n-1 { for j in 0..i { seen[i] == last && seen[j] == last } }` finds
a pair exactly when the last entry occurs at least three times in the list, itself included -/
theorem C11_threefold_iff (seen : List (BB × List Move)) (last : BB × List Move)
    (h : seen.getLast? = some last) : threefold seen = true ↔ 3 ≤ seen.count last :=
  threefold_iff seen last h

/-- one scan step: the half-move counter is reset by a pawn move or capture, otherwise incremented;
the repetition list is cleared by a pawn move, a capture or a change of castling rights; the entry of
the new position is appended -/
theorem C11_drawStep (T : Tables) (st : DrawScan) (m : Move) :
    drawStep T st m = (st.board.makeMoveNew T m).map fun b' =>
      ⟨b', if isPawnOrCapture st.board m then 0 else st.reversible + 1,
        (if isPawnOrCapture st.board m || rightsChanged st.board b' then [] else st.seen) ++ [entry T b']⟩ :=
  drawStep_eq T st m

theorem C11_drawScan_new (T : Tables) (s : Board) :
    drawScan T ⟨s, []⟩ = some ⟨s, 0, [entry T s]⟩ := rfl

theorem C11_drawScan_append_move (T : Tables) (s : Board) (l : List Action) (m : Move) :
    drawScan T ⟨s, l ++ [.makeMove m]⟩ = (drawScan T ⟨s, l⟩).bind fun st => drawStep T st m :=
  drawScan_append_move T s l m

theorem C11_drawScan_append_other (T : Tables) (s : Board) (l : List Action) (a : Action)
    (ha : isMove a = false) : drawScan T ⟨s, l ++ [a]⟩ = drawScan T ⟨s, l⟩ :=
  drawScan_append_other T s l a ha

/-- the scan follows the current position and its last entry is the one of the current position -/
theorem C11_drawScan_tracks_position {T : Tables} {g : Game} {st : DrawScan} (h : drawScan T g = some st) :
    currentPosition T g = some st.board ∧ st.seen.getLast? = some (entry T st.board) :=
  drawScan_board_last h

/-- the plies of a game, from the right: a move adds `(current position, move, next position)`, any
other action adds nothing -/
theorem C11_plies_new (T : Tables) (s : Board) : plies T ⟨s, []⟩ = some [] := rfl

theorem C11_plies_append_move (T : Tables) (s : Board) (l : List Action) (m : Move) :
    plies T ⟨s, l ++ [.makeMove m]⟩ =
      (plies T ⟨s, l⟩).bind fun tr => (currentPosition T ⟨s, l⟩).bind fun c =>
        (c.makeMoveNew T m).map fun c' => tr ++ [(c, m, c')] := pliesFrom_snoc_move T s l m

theorem C11_plies_append_other (T : Tables) (s : Board) (l : List Action) (a : Action)
    (ha : isMove a = false) : plies T ⟨s, l ++ [a]⟩ = plies T ⟨s, l⟩ := pliesFrom_snoc_other T s l a ha

/-- closed form of the two scan values (see the header) -/
theorem C11_drawScan_closed_form (T : Tables) (g : Game) :
    drawScan T g = (currentPosition T g).bind fun cur => (plies T g).map fun tr =>
      ⟨cur, trailing plyQuiet tr,
        (historyEntries T g.startPos tr).drop (tr.length - trailing plyRepeatable tr)⟩ :=
  drawScan_closed_form T g

/-- a draw can be claimed exactly when the game has no result and the scan found 100 reversible
half-moves or the last entry of `seen` (that of the current position) at least three times -/
theorem C11_can_declare_iff_model (T : Tables) (g : Game) :
    g.canDeclareDraw T = some true ↔
      g.result T = some none ∧ ∃ st, g.drawScan T = some st ∧
        (100 ≤ st.reversible ∨ 3 ≤ st.seen.count (entry T st.board)) := canDeclareDraw_iff T g

/-- the same with the scan values replaced by their meaning over the plies of the game -/
theorem C11_can_declare_iff_history (T : Tables) (g : Game) :
    g.canDeclareDraw T = some true ↔
      g.result T = some none ∧ ∃ cur tr, g.currentPosition T = some cur ∧ plies T g = some tr ∧
        (100 ≤ trailing plyQuiet tr ∨
         3 ≤ ((historyEntries T g.startPos tr).drop (tr.length - trailing plyRepeatable tr)).count (entry T cur)) := by
  rw [canDeclareDraw_iff, drawScan_closed_form]
  refine and_congr_right fun _ => ?_
  constructor
  · rintro ⟨st, hst, h⟩
    obtain ⟨cur, hc, hst⟩ := Option.bind_eq_some_iff.1 hst
    obtain ⟨tr, hp, rfl⟩ := Option.map_eq_some_iff.1 hst
    exact ⟨cur, tr, hc, hp, h⟩
  · rintro ⟨cur, tr, hc, hp, h⟩
    exact ⟨_, by rw [hc, hp]; rfl, h⟩

/-- with a result nothing can be claimed -/
theorem C11_no_claim_after_result {T : Tables} {g : Game} {r : GameResult}
    (hr : g.result T = some (some r)) : g.canDeclareDraw T = some false ∧ g.declareDraw T = some (g, false) :=
  ⟨canDeclareDraw_of_result hr, perform_of_result hr .declareDraw⟩

/-! ## non-vacuity (real tables) -/

/-- after 1. Nf3 Nf6 2. Ng1 Ng8 3. Nf3 Nf6 4. Ng1 Ng8 the initial position stands for the third time:
the claim is possible and succeeds; in the initial position it is refused -/
example : shuffle.canDeclareDraw codeTables = some true ∧
    (shuffle.declareDraw codeTables).map (·.2) = some true ∧
    newGame.canDeclareDraw codeTables = some false ∧
    newGame.declareDraw codeTables = some (newGame, false) := by decide +kernel

/-- the scan values of that game: 8 reversible half-moves, 9 recorded positions -/
example : (shuffle.drawScan codeTables).map (fun st => (st.reversible, st.seen.length)) = some (8, 9) := by
  decide +kernel

end Chess.Props
