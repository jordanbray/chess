import ChessVerif.Lemmas.PinCheck
/-!
# Pins and checks — legality of moves of a man other than the king (not en passant), on the specification

`p` any position (no `Valid` needed), `k` the square of the mover's king, which is the only king of that
colour (`count p (· == (.king, p.stm)) = 1`); `m` pseudo-legal with `m.src ≠ k` and not en passant.
`C := {x | checkerSq p x}`.

* (A) `C = ∅`   : legal ↔ the moving man is not pinned, or the destination is on `Geom.line m.src k`
* (B) `C = {x}` : legal ↔ the moving man is not pinned and the destination is `x` or strictly between `x` and `k`
* (C) `|C| ≥ 2` : not legal
* all together: `PinCheck_legal_nonking_iff`

No hypothesis about the contents of the destination square (beyond pseudo-legality) is needed.
-/
namespace Chess.Props
open Chess.PinCheck

/-- the hypotheses give the working context of `ChessVerif/Lemmas/PinCheck*.lean` -/
theorem PinCheck_ctx {p : Pos} {m : Move} {k : Sq} (hk : kingSq? p p.stm = some k)
    (h1 : count p (· == (.king, p.stm)) = 1) (hpl : pseudoLegal p m = true) (hsrc : m.src ≠ k)
    (hep : isEnPassant p m = false) : Ctx p m k :=
  Ctx.mk' (KingAt_of_count hk h1) hpl hsrc hep

/-- the board after a move that is neither castling nor en passant -/
theorem PinCheck_apply_board_plain (p : Pos) (m : Move) (hc : isCastle p m = false)
    (he : isEnPassant p m = false) (t : Sq) :
    (apply p m).board t = if t = m.dst then movedMan p m else if t = m.src then none else p.board t :=
  apply_board_plain hc he t

/-- a move of a man other than the unique king is not castling, and the king stays where it is -/
theorem PinCheck_king_unmoved {p : Pos} {m : Move} {k : Sq} (hk : kingSq? p p.stm = some k)
    (h1 : count p (· == (.king, p.stm)) = 1) (hpl : pseudoLegal p m = true) (hsrc : m.src ≠ k)
    (hep : isEnPassant p m = false) :
    isCastle p m = false ∧ kingSq? (apply p m) p.stm = some k ∧
      count (apply p m) (· == (.king, p.stm)) = 1 := by
  have h := PinCheck_ctx hk h1 hpl hsrc hep
  exact ⟨h.notCastle, count_of_KingAt h.after_king⟩

/-- attack on the king after the move: an enemy man `x` that is not captured attacks `k` afterwards iff
it is a slider aligned with `k` along its own directions whose path to `k` holds nothing except possibly
the vacated source and does not contain the destination, or a knight/pawn/king that attacked before -/
theorem PinCheck_attack_after {p : Pos} {m : Move} {k : Sq} (hk : kingSq? p p.stm = some k)
    (h1 : count p (· == (.king, p.stm)) = 1) (hpl : pseudoLegal p m = true) (hsrc : m.src ≠ k)
    (hep : isEnPassant p m = false) {x : Sq} (hx : p.colorAt x = some p.stm.other) (hd : x ≠ m.dst) :
    attacks (apply p m) x k = true ↔
      ((sliderAligned (p.board x) x k = true ∧
          ∀ z, strictlyBetween x z k = true → z ≠ m.dst ∧ (z = m.src ∨ p.empty z = true)) ∨
        leaperAtt (p.board x) x k = true) :=
  (PinCheck_ctx hk h1 hpl hsrc hep).after_attacks hx hd

/-- (A) not in check: legal iff not pinned or the destination is on the line through source and king -/
theorem PinCheck_A_no_check {p : Pos} {m : Move} {k : Sq} (hk : kingSq? p p.stm = some k)
    (h1 : count p (· == (.king, p.stm)) = 1) (hpl : pseudoLegal p m = true) (hsrc : m.src ≠ k)
    (hep : isEnPassant p m = false) (hnone : ∀ x, checkerSq p x = false) :
    legal p m = true ↔
      (pinnedSq p m.src = false ∨ (Geom.line m.src k).getLsbD m.dst.val = true) :=
  (PinCheck_ctx hk h1 hpl hsrc hep).no_check hpl hnone

/-- (B) single check by `x`: legal iff not pinned and the move captures `x` or interposes -/
theorem PinCheck_B_single_check {p : Pos} {m : Move} {k : Sq} (hk : kingSq? p p.stm = some k)
    (h1 : count p (· == (.king, p.stm)) = 1) (hpl : pseudoLegal p m = true) (hsrc : m.src ≠ k)
    (hep : isEnPassant p m = false) {x : Sq} (hx : checkerSq p x = true)
    (huniq : ∀ y, checkerSq p y = true → y = x) :
    legal p m = true ↔
      (pinnedSq p m.src = false ∧ (m.dst = x ∨ strictlyBetween x m.dst k = true)) :=
  (PinCheck_ctx hk h1 hpl hsrc hep).single_check hpl hx huniq

/-- (C) double check: no move of a man other than the king is legal -/
theorem PinCheck_C_double_check {p : Pos} {m : Move} {k : Sq} (hk : kingSq? p p.stm = some k)
    (h1 : count p (· == (.king, p.stm)) = 1) (hpl : pseudoLegal p m = true) (hsrc : m.src ≠ k)
    (hep : isEnPassant p m = false) {x y : Sq} (hx : checkerSq p x = true) (hy : checkerSq p y = true)
    (hne : x ≠ y) : legal p m = false :=
  (PinCheck_ctx hk h1 hpl hsrc hep).double_check hpl hx hy hne

/-- all cases: every checker is captured or blocked, and the moving man is not pinned unless there is no
check and it stays on the line through itself and the king -/
theorem PinCheck_legal_nonking_iff {p : Pos} {m : Move} {k : Sq} (hk : kingSq? p p.stm = some k)
    (h1 : count p (· == (.king, p.stm)) = 1) (hpl : pseudoLegal p m = true) (hsrc : m.src ≠ k)
    (hep : isEnPassant p m = false) :
    legal p m = true ↔
      (∀ x, checkerSq p x = true → m.dst = x ∨ strictlyBetween x m.dst k = true) ∧
      (pinnedSq p m.src = false ∨
        ((∀ x, checkerSq p x = false) ∧ (Geom.line m.src k).getLsbD m.dst.val = true)) :=
  (PinCheck_ctx hk h1 hpl hsrc hep).legal_nonking_iff hpl

/-- a pinned man is never the answer to a check -/
theorem PinCheck_pin_and_check_disjoint {p : Pos} {m : Move} {k : Sq} (hk : kingSq? p p.stm = some k)
    (h1 : count p (· == (.king, p.stm)) = 1) (hpl : pseudoLegal p m = true) (hsrc : m.src ≠ k)
    (hep : isEnPassant p m = false) {x : Sq} (hx : checkerSq p x = true)
    (hp : pinnedSq p m.src = true) : legal p m = false := by
  cases hl : legal p m with
  | false => rfl
  | true =>
    have := ((PinCheck_legal_nonking_iff hk h1 hpl hsrc hep).mp hl).2
    rcases this with e | ⟨e, _⟩
    · rw [hp] at e; exact Bool.noConfusion e
    · rw [e x] at hx; exact Bool.noConfusion hx

/-! ### the hypotheses are satisfiable (squares are `rank * 8 + file`) -/

section Examples
set_option maxRecDepth 100000

/-- white: Ke1, Re2; black: Ka8, Re8 — the rook on e2 is pinned, no check -/
def exA : Pos :=
  { board := fun s => if s.val = 4 then some (.king, .white) else if s.val = 12 then some (.rook, .white)
      else if s.val = 56 then some (.king, .black) else if s.val = 60 then some (.rook, .black) else none
    stm := .white, castleK := fun _ => false, castleQ := fun _ => false, ep := none }

/-- Re2–e4 stays on the pin line: legal by (A) -/
example : legal exA ⟨12, 28, none⟩ = true :=
  (PinCheck_A_no_check (k := 4) (by decide +kernel) (by decide +kernel) (by decide +kernel)
    (by decide) (by decide +kernel) (by decide +kernel)).mpr (Or.inr (by decide +kernel))

/-- Re2–a2 leaves the pin line: illegal by (A) -/
example : ¬ legal exA ⟨12, 8, none⟩ = true := fun hl => by
  have := (PinCheck_A_no_check (p := exA) (m := ⟨12, 8, none⟩) (k := 4) (by decide +kernel)
    (by decide +kernel) (by decide +kernel) (by decide) (by decide +kernel) (by decide +kernel)).mp hl
  revert this; decide +kernel

/-- white: Ke1, Bb5; black: Ka8, Re8 — single check by the rook e8 -/
def exB : Pos :=
  { board := fun s => if s.val = 4 then some (.king, .white) else if s.val = 33 then some (.bishop, .white)
      else if s.val = 56 then some (.king, .black) else if s.val = 60 then some (.rook, .black) else none
    stm := .white, castleK := fun _ => false, castleQ := fun _ => false, ep := none }

/-- Bb5–e2 interposes, Bb5xe8 captures the checker: legal by (B) -/
example : legal exB ⟨33, 12, none⟩ = true ∧ legal exB ⟨33, 60, none⟩ = true :=
  ⟨(PinCheck_B_single_check (k := 4) (x := 60) (by decide +kernel) (by decide +kernel) (by decide +kernel)
      (by decide) (by decide +kernel) (by decide +kernel) (by decide +kernel)).mpr (by decide +kernel),
   (PinCheck_B_single_check (k := 4) (x := 60) (by decide +kernel) (by decide +kernel) (by decide +kernel)
      (by decide) (by decide +kernel) (by decide +kernel) (by decide +kernel)).mpr (by decide +kernel)⟩

/-- white: Ke1, Bb5; black: Ka8, Re8, Nd3 — double check -/
def exC : Pos :=
  { board := fun s => if s.val = 4 then some (.king, .white) else if s.val = 33 then some (.bishop, .white)
      else if s.val = 56 then some (.king, .black) else if s.val = 60 then some (.rook, .black)
      else if s.val = 19 then some (.knight, .black) else none
    stm := .white, castleK := fun _ => false, castleQ := fun _ => false, ep := none }

/-- Bb5xd3 captures one checker only: illegal by (C) -/
example : legal exC ⟨33, 19, none⟩ = false :=
  PinCheck_C_double_check (k := 4) (x := 60) (y := 19) (by decide +kernel) (by decide +kernel)
    (by decide +kernel) (by decide) (by decide +kernel) (by decide +kernel) (by decide +kernel) (by decide)

end Examples

end Chess.Props
