import ChessVerif.Props.C07Oracle
import ChessVerif.Driver.Ops2
/-!
# The specification-level oracles of `Props/C07Oracle.lean` are the driver's

`Spec/Accept.lean` and `Spec/WfOracle.lean` copy five definitions of the compiled driver
(`Driver/Ops.lean`, `Driver/Ops2.lean`) so that the theorems of `Props/C07Oracle.lean` need not import the
driver.  This file imports both and checks that the copies are the same functions (`rfl`), that the driver's
memoisation `memo` is the identity, and that `wfOk` is exactly "`wfFindings` adds no finding of kind 'O'".
Then it restates the main results on the driver's own definitions.
-/
namespace Chess.Props
open Chess

theorem driver_acceptedOk_eq : Driver.acceptedOk = Chess.acceptedOk := rfl
theorem driver_occConsistent_eq : Driver.occConsistent = Chess.occConsistent := rfl
theorem driver_specCheckers_eq : Driver.specCheckers = Chess.specCheckers := rfl
theorem driver_specPinnedMine_eq : Driver.specPinnedMine = Chess.specPinnedMine := rfl
theorem driver_mine_eq : Driver.mine = Chess.mine := rfl

/-- the driver's `memo` (mailbox copied into an array) does not change the position -/
theorem driver_memo_eq (p : Pos) : Driver.memo p = p := by
  unfold Driver.memo
  cases p with
  | mk board stm ck cq ep =>
    simp only [Pos.mk.injEq, and_true]
    funext s
    simp [Array.getD]

/-- the shape of `Driver.wfFindings`: four reports in a row, each made when its condition holds -/
def reports (fs : Driver.Findings) (c₁ c₂ c₃ c₄ : Bool) (f₁ f₂ f₃ f₄ : Driver.Finding) : Driver.Findings := Id.run do
  let mut fs := fs
  if c₁ then fs := fs.push f₁
  if c₂ then fs := fs.push f₂
  if c₃ then fs := fs.push f₃
  if c₄ then fs := fs.push f₄
  return fs

/-- `wfFindings` reports, with kind 'O', the failure of each of the three clauses of `wfOk`, and after them
the raw-hash finding, of kind 'M' -/
theorem wfFindings_shape (fs : Driver.Findings) (pre : String) (b : Board) (p : Pos) :
    ∃ c₄ f₁ f₂ f₃ f₄, Driver.wfFindings fs pre b p =
      reports fs (!occConsistent b) (b.checkers != specCheckers p) (b.pinned &&& mine b != specPinnedMine p) c₄
        f₁ f₂ f₃ f₄ ∧ f₁.kind = 'O' ∧ f₂.kind = 'O' ∧ f₃.kind = 'O' ∧ f₄.kind = 'M' :=
  ⟨_, _, _, _, _, rfl, rfl, rfl, rfl, rfl⟩

/-- `fs` with `f` appended if `c` holds; `reports` is four of these in a row -/
def pushIf (fs : Driver.Findings) (c : Bool) (f : Driver.Finding) : Driver.Findings := if c then fs.push f else fs

theorem reports_eq (fs : Driver.Findings) (c₁ c₂ c₃ c₄ : Bool) (f₁ f₂ f₃ f₄ : Driver.Finding) :
    reports fs c₁ c₂ c₃ c₄ f₁ f₂ f₃ f₄ = pushIf (pushIf (pushIf (pushIf fs c₁ f₁) c₂ f₂) c₃ f₃) c₄ f₄ := by
  cases c₁ <;> cases c₂ <;> cases c₃ <;> cases c₄ <;> rfl

theorem size_pushIf (fs : Driver.Findings) (c : Bool) (f : Driver.Finding) :
    (pushIf fs c f).size = fs.size + c.toNat := by
  cases c
  · rfl
  · exact Array.size_push f

theorem filter_pushIf (p : Driver.Finding → Bool) (fs : Driver.Findings) (c : Bool) (f : Driver.Finding) :
    (pushIf fs c f).filter p = pushIf (fs.filter p) (c && p f) f := by
  cases c
  · rfl
  · exact Array.filter_push

/-- the reports of kind 'O' among `reports`: one for each of the first three conditions that holds -/
theorem reports_filter (fs : Driver.Findings) (c₁ c₂ c₃ c₄ : Bool) {f₁ f₂ f₃ f₄ : Driver.Finding}
    (h₁ : f₁.kind = 'O') (h₂ : f₂.kind = 'O') (h₃ : f₃.kind = 'O') (h₄ : f₄.kind = 'M') :
    (reports fs c₁ c₂ c₃ c₄ f₁ f₂ f₃ f₄).filter (·.kind == 'O') =
      reports (fs.filter (·.kind == 'O')) c₁ c₂ c₃ false f₁ f₂ f₃ f₄ := by
  rw [reports_eq, reports_eq, filter_pushIf, filter_pushIf, filter_pushIf, filter_pushIf, h₁, h₂, h₃, h₄,
    beq_self_eq_true, show ('M' == 'O') = false from rfl, Bool.and_true, Bool.and_true, Bool.and_true, Bool.and_false]

/-- if `wfOk` holds, `wfFindings` adds no finding of kind 'O' (it may add the kind-'M' raw-hash finding) -/
theorem C03_wfFindings_noO_of_wfOk (fs : Driver.Findings) (pre : String) (b : Board) (p : Pos)
    (h : wfOk b p = true) :
    (Driver.wfFindings fs pre b p).filter (·.kind == 'O') = fs.filter (·.kind == 'O') := by
  obtain ⟨c₄, f₁, f₂, f₃, f₄, e, h₁, h₂, h₃, h₄⟩ := wfFindings_shape fs pre b p
  unfold wfOk at h
  simp only [Bool.and_eq_true] at h
  rw [e, reports_filter fs _ _ _ _ h₁ h₂ h₃ h₄, bne, bne, h.1.1, h.1.2, h.2]
  rfl

/-- if `wfOk` fails, `wfFindings` adds at least one finding of kind 'O' -/
theorem C03_wfFindings_O_of_not_wfOk (fs : Driver.Findings) (pre : String) (b : Board) (p : Pos)
    (h : wfOk b p = false) :
    (fs.filter (·.kind == 'O')).size < ((Driver.wfFindings fs pre b p).filter (·.kind == 'O')).size := by
  obtain ⟨c₄, f₁, f₂, f₃, f₄, e, h₁, h₂, h₃, h₄⟩ := wfFindings_shape fs pre b p
  unfold wfOk at h
  rw [e, reports_filter fs _ _ _ _ h₁ h₂ h₃ h₄, bne, bne, reports_eq, size_pushIf, size_pushIf, size_pushIf,
    size_pushIf]
  -- a clause of `wfOk` that fails contributes a report
  simp only [Bool.and_eq_false_iff] at h
  rcases h with (h | h) | h <;> rw [h] <;> simp only [Bool.not_false, Bool.toNat_true] <;> omega

/-- `wfOk` is exactly what `wfFindings` tests with kind 'O' -/
theorem C03_wfFindings_noO_iff (fs : Driver.Findings) (pre : String) (b : Board) (p : Pos) :
    (Driver.wfFindings fs pre b p).filter (·.kind == 'O') = fs.filter (·.kind == 'O') ↔ wfOk b p = true := by
  constructor
  · intro h
    cases hw : wfOk b p with
    | true => rfl
    | false =>
      have := C03_wfFindings_O_of_not_wfOk fs pre b p hw
      rw [h] at this
      exact absurd this (Nat.lt_irrefl _)
  · exact C03_wfFindings_noO_of_wfOk fs pre b p

/-- on the driver's own definitions: what `acceptFindings` evaluates on a board equal to the model's accepted
board, `acceptedOk (memo b.abs)` and `occConsistent b`, never yields a finding -/
theorem C07_driver_accept_oracle_of_tryFrom {T : Tables} (hT : TablesOK T) {bd : Builder} {b : Board}
    (h : Board.tryFrom T bd = some b) :
    Driver.acceptedOk (Driver.memo b.abs) = none ∧ Driver.occConsistent b = true := by
  rw [driver_memo_eq, driver_acceptedOk_eq, driver_occConsistent_eq]
  exact ⟨C07_acceptedOk_of_tryFrom hT h, C03_occConsistent_of_struct (C07_accepted_struct h)⟩

/-- on the driver's own definitions: `wfFindings` on a `Good` board and its (memoised) position adds no
finding of kind 'O' -/
theorem C03_driver_wfFindings_of_good {T : Tables} (hT : TablesOK T) {b : Board} (hg : b.Good T)
    (fs : Driver.Findings) (pre : String) :
    (Driver.wfFindings fs pre b (Driver.memo b.abs)).filter (·.kind == 'O') = fs.filter (·.kind == 'O') := by
  rw [driver_memo_eq]
  exact C03_wfFindings_noO_of_wfOk fs pre b b.abs (C03_wfOk_of_good hT hg)

/-! ### non-vacuity -/

section Examples
open GameExamples

example : ∃ bd b, Board.tryFrom codeTables bd = some b ∧ Driver.acceptedOk (Driver.memo b.abs) = none := by
  obtain ⟨bd, b, _, h, _⟩ := C07_start_accepted
  exact ⟨bd, b, h, (C07_driver_accept_oracle_of_tryFrom codeTables_ok h).1⟩

example : ∃ b : Board, b.Good codeTables ∧
    ((Driver.wfFindings #[] "" b (Driver.memo b.abs)).filter (·.kind == 'O')).size = 0 := by
  obtain ⟨b, _, _, hg⟩ := C01_good_of_valid_pos codeTables_ok startPos_valid
  exact ⟨b, hg, by rw [C03_driver_wfFindings_of_good codeTables_ok hg]; rfl⟩

end Examples

end Chess.Props
