import ChessVerif.Lemmas.MoveInv
import ChessVerif.Proofs.TablesOK
import ChessVerif.Refine.Dump
/-!
# C08 — the hash is a function of the position, whatever the path

`Board.getHash` models `Board::get_hash`; `Pos.hashOf` is the from-scratch hash of a position (xor of
the placement keys of the 64 squares, ep-file key, rights keys, side key).  `Core T b` is the invariant
"bitboards consistent and raw `hash` field = xor of the placement keys of the men on the board".
* `C08_hash_pure`: under `Core`, `get_hash` is `hashOf` of the abstract position.
* `C08_path_independent`: two `Core` boards with the same men, side, rights and ep mark hash equal.
* `C08_tryFrom_spec`: every board accepted by `try_from` satisfies `Core` and holds the builder's state.
* `BoardReachable`: boards obtained from `try_from` by `null_move` and by `make_move_new` of moves that are
  pseudo-legal on a position whose ep mark and castling rights are consistent (`Pos.EpSane`,
  `Pos.RightsSane`, both implied by `Valid`); `C08_reachable_core`: all of them satisfy `Core`, hence
  (`C08_reachable_hash`) their hash is the position hash whatever the path.
* `Played` (no side condition along the way): boards obtained from an accepted builder state whose ep mark is
  consistent (always the case when the builder has no ep square) by null moves and pseudo-legal moves;
  `C08_played_core`, `C08_played_hash`: they satisfy `Core` and hash as their position.
-/
namespace Chess.Props

theorem C08_hash_pure (T : Tables) (b : Board) (h : Core T b) : b.getHash T = b.abs.hashOf T :=
  getHash_eq_hashOf T b h.hash

theorem C08_path_independent (T : Tables) (b₁ b₂ : Board) (h₁ : Core T b₁) (h₂ : Core T b₂)
    (hcont : ∀ s, b₁.content s = b₂.content s) (hs : b₁.stm = b₂.stm) (hw : b₁.wcr = b₂.wcr)
    (hb : b₁.bcr = b₂.bcr) (he : b₁.ep = b₂.ep) : b₁.getHash T = b₂.getHash T := by
  rw [C08_hash_pure T b₁ h₁, C08_hash_pure T b₂ h₂, abs_eq_of_fields hcont hs hw hb he]

/-- the tie: a board dump of the line protocol carries the observable `get_hash()`, and the model is run on the
board whose private `hash` field is `rawOfGhash` of it — the value that reproduces the observable … -/
theorem C08_dump_hash_roundtrip (T : Tables) (b : Board) (g : BB) :
    ({ b with hash := b.rawOfGhash T g } : Board).getHash T = g := Board.getHash_rawOfGhash T b g

/-- … and the only one: the model state is determined by what the implementation lets a caller observe -/
theorem C08_dump_hash_unique (T : Tables) (b : Board) (g : BB) :
    b.getHash T = g ↔ b.hash = b.rawOfGhash T g := Board.getHash_eq_iff_raw T b g

/-- `impl Hash for Board` feeds only the raw `hash` field (by construction of the model); equal boards
have equal raw fields -/
theorem C08_hash_trait (b₁ b₂ : Board) (h : b₁ = b₂) : b₁.hash = b₂.hash := congrArg Board.hash h

/-- for every builder state, the placement loop of `try_from` yields a `Core` board holding exactly the
builder's men -/
theorem C08_tryFrom_fold (T : Tables) (bd : Builder) :
    Core T (allSq.foldl (fun b s => match bd.pieces s with
      | some (p, c) => b.xor T p (BB.ofSq s) c
      | none => b) Board.blank) ∧
    (allSq.foldl (fun b s => match bd.pieces s with
      | some (p, c) => b.xor T p (BB.ofSq s) c
      | none => b) Board.blank).content = bd.pieces := buildFold_allSq T bd

/-- what an accepted builder state yields: invariant, placement, side, rights, and the ep mark is the
builder's ep square iff a pawn of the side to move stands beside it on the same rank -/
theorem C08_tryFrom_spec (T : Tables) (bd : Builder) (b : Board) (h : Board.tryFrom T bd = some b) :
    Core T b ∧ b.content = bd.pieces ∧ b.stm = bd.stm ∧ b.wcr = bd.wcr ∧ b.bcr = bd.bcr ∧
    b.ep = (match bd.getEnPassant with
      | some e =>
        if T.adjFiles e.getFile &&& T.ranks e.getRank &&& b.pawns &&& b.colorCombined b.stm ≠ 0#64
        then some e else none
      | none => none) ∧
    Board.updatePinInfo T b = b ∧ b.isSane T = true := tryFrom_spec T bd b h

/-- the ep part read as geometry -/
theorem C08_tryFrom_ep (T : Tables) (hT : TablesOK T) (bd : Builder) (b : Board) (h : Board.tryFrom T bd = some b)
    (q : Sq) : b.ep = some q ↔ (bd.getEnPassant = some q ∧
      ∃ s : Sq, s.rank = q.rank ∧ (s.file - q.file).natAbs = 1 ∧ b.content s = some (.pawn, b.stm)) := by
  obtain ⟨hc, _, _, _, _, hep, _, _⟩ := tryFrom_spec T bd b h
  rw [hep, ← adjTest_iff hT hc.toStruct]
  cases bd.getEnPassant with
  | none => exact ⟨nofun, fun hh => nomatch hh.1⟩
  | some e =>
    dsimp only
    constructor
    · intro hh
      split at hh
      · next ht => cases hh; exact ⟨rfl, ht⟩
      · cases hh
    · rintro ⟨he, ht⟩
      cases he
      exact if_pos ht

/-- boards obtained from `try_from` by null moves and by pseudo-legal moves made on consistent positions -/
inductive BoardReachable (T : Tables) : Board → Prop
  | tryFrom (bd : Builder) (b : Board) : Board.tryFrom T bd = some b → BoardReachable T b
  | null (b b' : Board) : BoardReachable T b → b.nullMove T = some b' → BoardReachable T b'
  | move (b b' : Board) (m : Move) : BoardReachable T b → pseudoLegal b.abs m = true → b.abs.EpSane →
      b.abs.RightsSane → b.makeMoveNew T m = some b' → BoardReachable T b'

theorem C08_reachable_core (T : Tables) (hT : TablesOK T) (b : Board) (h : BoardReachable T b) : Core T b := by
  induction h with
  | tryFrom bd b h => exact (tryFrom_spec T bd b h).1
  | null b b' _ h ih => exact ((nullMove_spec T b b' h).1.core_iff T).mpr ih
  | move b b' m _ hpl hep hrs hmk ih =>
    obtain ⟨b'', e, hc, _⟩ := make_move_refines hT ih hpl hep hrs
    rw [hmk] at e
    injection e with e
    rw [e]; exact hc

theorem C08_reachable_hash (T : Tables) (hT : TablesOK T) (b : Board) (h : BoardReachable T b) :
    b.getHash T = b.abs.hashOf T := C08_hash_pure T b (C08_reachable_core T hT b h)

/-- two reachable boards showing the same position have the same hash, whatever the two paths -/
theorem C08_reachable_path_independent (T : Tables) (hT : TablesOK T) (b₁ b₂ : Board) (h₁ : BoardReachable T b₁)
    (h₂ : BoardReachable T b₂) (he : b₁.abs = b₂.abs) : b₁.getHash T = b₂.getHash T := by
  rw [C08_reachable_hash T hT b₁ h₁, C08_reachable_hash T hT b₂ h₂, he]

/-- play without side conditions: only the ep mark of the starting board has to be consistent -/
theorem C08_played_core (T : Tables) (hT : TablesOK T) (b : Board) (h : Played T b) :
    Core T b ∧ b.abs.EpSane ∧ b.abs.RightsSane := h.inv hT

theorem C08_played_reachable (T : Tables) (hT : TablesOK T) (b : Board) (h : Played T b) : BoardReachable T b := by
  induction h with
  | start bd b h _ => exact .tryFrom bd b h
  | null b b' _ h ih => exact .null b b' ih h
  | move b b' m hp hpl h ih => exact .move b b' m ih hpl (hp.inv hT).2.1 (hp.inv hT).2.2 h

theorem C08_played_hash (T : Tables) (hT : TablesOK T) (b : Board) (h : Played T b) :
    b.getHash T = b.abs.hashOf T := C08_hash_pure T b (h.inv hT).1

theorem C08_played_path_independent (T : Tables) (hT : TablesOK T) (b₁ b₂ : Board) (h₁ : Played T b₁)
    (h₂ : Played T b₂) (he : b₁.abs = b₂.abs) : b₁.getHash T = b₂.getHash T := by
  rw [C08_played_hash T hT b₁ h₁, C08_played_hash T hT b₂ h₂, he]

/-- with the tables of the code -/
theorem C08_played_hash_code (b : Board) (h : Played codeTables b) :
    b.getHash codeTables = b.abs.hashOf codeTables := C08_played_hash codeTables codeTables_ok b h

/-- with the tables of the code -/
theorem C08_reachable_hash_code (b : Board) (h : BoardReachable codeTables b) :
    b.getHash codeTables = b.abs.hashOf codeTables := C08_reachable_hash codeTables codeTables_ok b h

/-! non-vacuity: two different move orders (Ng1-f3, Ng8-f6, Nb1-c3, Nb8-c6 / Nb1-c3, Nb8-c6, Ng1-f3, Ng8-f6,
on a small board: the kings and the four knights) reach boards with equal `get_hash` -/
def c08ExBd : Builder where
  pieces s := match s.val with
    | 4 => some (.king, .white) | 1 => some (.knight, .white) | 6 => some (.knight, .white)
    | 60 => some (.king, .black) | 62 => some (.knight, .black) | 57 => some (.knight, .black)
    | _ => none
  stm := .white
  wcr := .noRights
  bcr := .noRights
  epFile := none

def c08PlayAll (T : Tables) (ms : List Move) (b : Board) : Option Board :=
  ms.foldl (fun ob m => ob.bind fun b => b.makeMoveNew T m) (some b)

set_option maxRecDepth 100000 in
example : ((Board.tryFrom codeTables c08ExBd).bind (c08PlayAll codeTables [⟨6, 21, none⟩, ⟨62, 45, none⟩, ⟨1, 18, none⟩, ⟨57, 42, none⟩])).map
      (Board.getHash codeTables) =
    ((Board.tryFrom codeTables c08ExBd).bind (c08PlayAll codeTables [⟨1, 18, none⟩, ⟨57, 42, none⟩, ⟨6, 21, none⟩, ⟨62, 45, none⟩])).map
      (Board.getHash codeTables) ∧
    ((Board.tryFrom codeTables c08ExBd).bind (c08PlayAll codeTables [⟨6, 21, none⟩, ⟨62, 45, none⟩])).isSome = true := by
  decide +kernel

/-- the board built from `c08ExBd` starts a play (no ep square), so `C08_played_hash` applies to it and to
everything reached from it -/
example : ∃ b, Played codeTables b ∧ BoardReachable codeTables b := by
  cases ht : Board.tryFrom codeTables c08ExBd with
  | none =>
    have : (Board.tryFrom codeTables c08ExBd).isSome = true := by
      decide +kernel
    rw [ht] at this; cases this
  | some b => exact ⟨b, Played.start_noep ht rfl, .tryFrom c08ExBd b ht⟩

end Chess.Props
